/-! `Int32` facts used by the scalar proofs: comparisons read through `toInt`, and `ofInt` of the mathematical
result of an operation on two `toInt`s is the machine operation; an integer between two `i32` values round-trips
(`toInt_ofInt_of_between`, for the random draws of C13). -/
namespace Pushr.L

theorem i32_beq_toInt (a b : Int32) : (a == b) = (a.toInt == b.toInt) := by
  rw [Bool.eq_iff_iff]; simp [Int32.toInt_inj]

theorem i32_beq_zero (a : Int32) : (a == 0) = (a.toInt == 0) := i32_beq_toInt a 0

theorem i32_bne_zero (a : Int32) : (a != 0) = !(a.toInt == 0) := congrArg (!·) (i32_beq_zero a)

theorem i32_lt_toInt (a b : Int32) : decide (a < b) = decide (a.toInt < b.toInt) := by
  simp [Int32.lt_iff_toInt_lt]

theorem toInt_ofInt_of_between {lo hi : Int32} {v : Int} (h1 : lo.toInt ≤ v) (h2 : v ≤ hi.toInt) :
    (Int32.ofInt v).toInt = v := by
  have := lo.le_toInt
  have := hi.toInt_lt
  exact Int32.toInt_ofInt_of_le (by omega) (by omega)

@[simp] theorem ofInt_add' (a b : Int32) : Int32.ofInt (a.toInt + b.toInt) = a + b := by
  rw [Int32.ofInt_add, Int32.ofInt_toInt, Int32.ofInt_toInt]
@[simp] theorem ofInt_sub' (a b : Int32) : Int32.ofInt (a.toInt - b.toInt) = a - b := by
  rw [Int32.ofInt_sub, Int32.ofInt_toInt, Int32.ofInt_toInt]
@[simp] theorem ofInt_mul' (a b : Int32) : Int32.ofInt (a.toInt * b.toInt) = a * b := by
  rw [Int32.ofInt_mul, Int32.ofInt_toInt, Int32.ofInt_toInt]

theorem ofInt_tdiv' (a b : Int32) : Int32.ofInt (Int.tdiv a.toInt b.toInt) = a / b := by
  rw [Int32.ofInt_tdiv a.minValue_le_toInt a.toInt_le b.minValue_le_toInt b.toInt_le, Int32.ofInt_toInt,
    Int32.ofInt_toInt]

theorem ofInt_tmod' (a b : Int32) : Int32.ofInt (Int.tmod a.toInt b.toInt) = a % b := by
  rw [Int32.ofInt_tmod a.minValue_le_toInt a.toInt_le b.minValue_le_toInt b.toInt_le, Int32.ofInt_toInt,
    Int32.ofInt_toInt]

theorem ofInt_ite (c : Prop) [Decidable c] (a b : Int32) :
    Int32.ofInt (if c then a.toInt else b.toInt) = if c then a else b := by
  split <;> exact Int32.ofInt_toInt _

theorem ofInt_max' (a b : Int32) : Int32.ofInt (max a.toInt b.toInt) = if b < a then a else b := by
  simp only [Int32.lt_iff_toInt_lt, ← Int.not_le, ite_not, Int.max_def, ofInt_ite]

theorem ofInt_min' (a b : Int32) : Int32.ofInt (min a.toInt b.toInt) = if b < a then b else a := by
  simp only [Int32.lt_iff_toInt_lt, ← Int.not_le, ite_not, Int.min_def, ofInt_ite]

theorem ofInt_natAbs' (a : Int32) : Int32.ofInt (a.toInt.natAbs : Int) = if a < 0 then -a else a := by
  simp only [Int32.lt_iff_toInt_lt, Int32.toInt_zero]
  split
  · rw [show (a.toInt.natAbs : Int) = -a.toInt by omega, Int32.ofInt_neg, Int32.ofInt_toInt]
  · rw [show (a.toInt.natAbs : Int) = a.toInt by omega, Int32.ofInt_toInt]

end Pushr.L
