import Pushr.Basic
/-! The panicking primitives of `Basic.lean` succeed under their guards (`RVec.idx_ok` stands next to them). -/
namespace Pushr
variable {α : Type}

theorem RVec.idx_some {v : List α} {i : Nat} {x : α} (h : v[i]? = some x) : RVec.idx v i = .ok x := by
  rw [RVec.idx, h]

theorem RVec.set_ok {v : List α} {i : Nat} {x : α} (h : i < v.length) : RVec.set v i x = .ok (v.set i x) := if_pos h

theorem RVec.remove_some {v : List α} {i : Nat} {x : α} (h : v[i]? = some x) :
    RVec.remove v i = .ok (x, v.eraseIdx i) := by
  rw [RVec.remove, h]

theorem RVec.insert_ok (v : List α) {i : Nat} (x : α) (h : i ≤ v.length) :
    RVec.insert v i x = .ok (v.take i ++ x :: v.drop i) := if_pos h

theorem Usize.sub_ok {a b : Nat} (h : b ≤ a) : Usize.sub a b = .ok (a - b) := if_pos h

end Pushr
