import Pushr.Spec.C10
import Pushr.Lemmas.Lens
/-! Agreement of two states outside a set of fields (`AgreeOff`, with `mask` as the rule for explicit records),
`PopsOnly` as a preorder, and the law that ties a stack lens to its field. The per-instruction theorems of C10
are built from these. -/
namespace Pushr.C10
open Pushr

theorem Unchanged.refl {f : Field} {s : State} : Unchanged f s s := by cases f <;> rfl

theorem Unchanged.trans {f : Field} {a b c : State} (h : Unchanged f a b) (h' : Unchanged f b c) :
    Unchanged f a c := by
  cases f <;> exact Eq.trans h h'

/-- `a` and `b` differ at most on the fields in `F`. The node counter counts as part of the graph
memory, the configuration belongs to no footprint, and `rng` is never constrained. -/
structure AgreeOff (F : List Field) (a b : State) : Prop where
  field : ∀ f, f ∉ F → Unchanged f a b
  nextId : .graph ∉ F → a.nextId = b.nextId
  cfg : a.cfg = b.cfg

namespace AgreeOff
variable {F G : List Field} {f : Field} {a b c s : State}

theorem refl : AgreeOff F s s := ⟨fun _ _ => .refl, fun _ => rfl, rfl⟩

theorem trans (h : AgreeOff F a b) (h' : AgreeOff F b c) : AgreeOff F a c :=
  ⟨fun f hf => (h.field f hf).trans (h'.field f hf), fun hg => (h.nextId hg).trans (h'.nextId hg), h.cfg.trans h'.cfg⟩

theorem mono (h : AgreeOff F a b) (hFG : ∀ f ∈ F, f ∈ G) : AgreeOff G a b :=
  ⟨fun f hf => h.field f fun hm => hf (hFG f hm), fun hg => h.nextId fun hm => hg (hFG _ hm), h.cfg⟩

theorem of_mem (h : AgreeOff [f] a b) (hf : f ∈ F) : AgreeOff F a b :=
  h.mono fun _ hg => List.eq_of_mem_singleton hg ▸ hf

end AgreeOff

def hide {α : Type} [Inhabited α] (F : List Field) (f : Field) (v : α) : α := bif F.contains f then default else v

/-- `x` with the fields in `F` blanked: the node counter with the graph memory, `rng` always, `cfg` never -/
def mask (F : List Field) (x : State) : State :=
  { bool := hide F .bool x.bool, int := hide F .int x.int, float := hide F .float x.float, name := hide F .name x.name,
    code := hide F .code x.code, exec := hide F .exec x.exec, index := hide F .index x.index, bvec := hide F .bvec x.bvec,
    ivec := hide F .ivec x.ivec, fvec := hide F .fvec x.fvec, input := hide F .input x.input,
    output := hide F .output x.output, graph := hide F .graph x.graph, bindings := hide F .bindings x.bindings,
    cfg := x.cfg, quote := hide F .quote x.quote, send := hide F .send x.send, rng := 0,
    nextId := hide F .graph x.nextId }

theorem hide_of_not_mem {α : Type} [Inhabited α] {F : List Field} {f : Field} (h : f ∉ F) (v : α) : hide F f v = v := by
  simp [hide, h]

/-- The rule for an explicit record: blanking the `F`-fields makes `a` and `s` equal. For a concrete `F` and a record
`a` built from `s` the hypothesis is `rfl`: the unifier compares `hide F f a.f` with `hide F f s.f` argument by argument
and evaluates the membership test only for the fields that differ, which is why no check field by field is used.
`injection` numbers the fields of `State` in declaration order: 15 is `cfg`, 18 `rng` (masked), 19 `nextId`. -/
theorem AgreeOff.of_mask {F : List Field} {a s : State} (h : mask F a = mask F s) : AgreeOff F a s := by
  injection h with h1 h2 h3 h4 h5 h6 h7 h8 h9 h10 h11 h12 h13 h14 h15 h16 h17 _ h19
  refine ⟨fun f hf => ?_, fun hg => by rwa [hide_of_not_mem hg, hide_of_not_mem hg] at h19, h15⟩
  cases f <;> simp only [hide_of_not_mem hf] at * <;> assumption

theorem isSuffix.refl {α : Type} {l : List α} : isSuffix l l := ⟨0, rfl⟩

theorem isSuffix.trans {α : Type} {a b c : List α} (h : isSuffix a b) (h' : isSuffix b c) : isSuffix a c := by
  obtain ⟨k, rfl⟩ := h
  obtain ⟨k', rfl⟩ := h'
  exact ⟨k' + k, (List.drop_drop ..)⟩

theorem isSuffix.of_eq {α : Type} {l t : List α} (p : List α) (h : l = p ++ t) : isSuffix t l :=
  ⟨p.length, by rw [h, List.drop_left]⟩

/-- with `isSuffix.refl`, decides by `simp` whether a list written as `x₁ :: … :: xₖ :: t` has the suffix `t` -/
theorem isSuffix_cons_iff {α : Type} (l' l : List α) (x : α) : isSuffix l' (x :: l) ↔ l' = x :: l ∨ isSuffix l' l := by
  constructor
  · rintro ⟨k, rfl⟩
    cases k with
    | zero => exact .inl rfl
    | succ k => exact .inr ⟨k, rfl⟩
  · rintro (rfl | ⟨k, rfl⟩)
    · exact ⟨0, rfl⟩
    · exact ⟨k + 1, rfl⟩

theorem isSuffix.length_le {α : Type} {l' l : List α} (h : isSuffix l' l) : l'.length ≤ l.length := by
  obtain ⟨k, rfl⟩ := h
  simp

theorem PopsOnly.refl {s : State} : PopsOnly s s :=
  ⟨.refl, .refl, .refl, .refl, .refl, .refl, .refl, .refl, .refl, .refl, rfl, rfl, rfl, rfl, rfl, rfl⟩

theorem PopsOnly.trans {a b c : State} (h : PopsOnly a b) (h' : PopsOnly b c) : PopsOnly a c := by
  obtain ⟨h1, h2, h3, h4, h5, h6, h7, h8, h9, h10, h11, h12, h13, h14, h15, h16⟩ := h
  obtain ⟨k1, k2, k3, k4, k5, k6, k7, k8, k9, k10, k11, k12, k13, k14, k15, k16⟩ := h'
  exact ⟨k1.trans h1, k2.trans h2, k3.trans h3, k4.trans h4, k5.trans h5, k6.trans h6, k7.trans h7, k8.trans h8,
    k9.trans h9, k10.trans h10, k11.trans h11, k12.trans h12, k13.trans h13, k14.trans h14, k15.trans h15, k16.trans h16⟩

theorem PopsOnly.depth_le {a b : State} (h : PopsOnly a b) (f : Field) : depthOf b f ≤ depthOf a f := by
  obtain ⟨h1, h2, h3, h4, h5, h6, h7, h8, h9, h10, h11, h12, h13, h14, _, _⟩ := h
  cases f
  case quote | send | cfg => exact Nat.le_refl _
  case input | output | graph | bindings => exact Nat.le_of_eq (by simp only [depthOf, *])
  all_goals exact isSuffix.length_le ‹_›

theorem tyLens_frame (t : Ty) (s : State) (l : List t.El) {F : List Field} (hf : tyField t ∈ F) :
    AgreeOff F ((tyLens t).set s l) s := by
  cases t <;> exact .of_mem (.of_mask rfl) hf

theorem tyLens_pops (t : Ty) (s : State) (l : List t.El) (h : isSuffix l ((tyLens t).get s)) :
    PopsOnly s ((tyLens t).set s l) := by
  -- the stack `t` by `h`, the other nine are unchanged
  cases t <;> refine ⟨?_, ?_, ?_, ?_, ?_, ?_, ?_, ?_, ?_, ?_, rfl, rfl, rfl, rfl, rfl, rfl⟩ <;>
    first | exact h | exact .refl

theorem tyLens_depth (t : Ty) (s : State) : depthOf s (tyField t) = ((tyLens t).get s).length := by cases t <;> rfl

/-! which instructions list the quote flag, and which the graph stack -/

theorem quote_notin_footprint (i : Instr) (h : i ≠ .name .quote) : Field.quote ∉ footprint i := by
  cases i with
  | name o => cases o with | quote => exact absurd rfl h | _ => decide
  | stk t o => cases t <;> cases o <;> decide
  | define t => cases t <;> decide
  | vec t o => cases t <;> cases o <;> decide
  | noop => decide
  | unknown n => exact fun h => nomatch h          -- `decide` cannot evaluate under the free `n`
  | boolean o | integer o | float o | code o | exec o | index o | io o | list o | graph o => cases o <;> decide

theorem graph_notin_footprint (i : Instr) (h : ∀ o, i ≠ .graph o) : Field.graph ∉ footprint i := by
  cases i with
  | graph o => exact absurd rfl (h o)
  | stk t o => cases t <;> cases o <;> decide
  | define t => cases t <;> decide
  | vec t o => cases t <;> cases o <;> decide
  | noop => decide
  | unknown n => exact fun h => nomatch h
  | boolean o | integer o | float o | name o | code o | exec o | index o | io o | list o => cases o <;> decide

end Pushr.C10
