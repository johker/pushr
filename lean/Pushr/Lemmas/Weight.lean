import Pushr.Spec.C15
import Pushr.Lemmas.Lens
import Pushr.Lemmas.Tree
/-! The algebra of `C15.weight`: it is a sum over fourteen list-valued fields, so it is additive in each of them.
Two forms of that one fact: `Weighted L f` (a lens law, for reasoning about any stack at once) and the `W_cons_*`
rewrite rules (for a concrete instruction: pops and pushes are peeled off until both sides speak of the same
remaining state, and what is left is linear arithmetic over a handful of atoms). `R` stays folded: a proof about
INDEX, the buffers or the bindings adds `R` to its simp set. -/
namespace Pushr.C15
open Pushr

@[simp] theorem sumMap_nil {α : Type} (f : α → Nat) : sumMap f [] = 0 := rfl
@[simp] theorem sumMap_cons {α : Type} (f : α → Nat) (x : α) (l : List α) : sumMap f (x :: l) = f x + sumMap f l := rfl

@[simp] theorem sizeL_eq_sumMap (xs : List Item) : Item.sizeL xs = sumMap Item.size xs := Item.sizeL_eq_sum xs

def W (b : List Bool) (i : List Int32) (f : List Float32) (n : List String) (c e : List Item)
    (bv : List (List Bool)) (iv : List (List Int32)) (fv : List (List Float32)) : Nat :=
  b.length + i.length + f.length + sumMap (fun n => 1 + n.length) n + sumMap Item.size c + sumMap Item.size e
  + sumMap (fun v => 1 + v.length) bv + sumMap (fun v => 1 + v.length) iv + sumMap (fun v => 1 + v.length) fv

def R (ix : List (Nat × Nat)) (inp out : List Msg) (g : List Graph) (bd : List (String × Item)) : Nat :=
  ix.length + sumMap (fun m => 2 + m.header.length + m.body.length) inp
  + sumMap (fun m => 2 + m.header.length + m.body.length) out + sumMap (fun g => 1 + graphWeight g) g
  + sumMap (fun p => 1 + p.1.length + p.2.size) bd

theorem weight_eq_W (s : State) : weight s = R s.index s.input.items s.output.items s.graph.items s.bindings
    + W s.bool s.int s.float s.name s.code s.exec s.bvec s.ivec s.fvec := by
  simp only [weight, W, R]; omega

section
variable (b : List Bool) (i : List Int32) (f : List Float32) (n : List String) (c e : List Item)
  (bv : List (List Bool)) (iv : List (List Int32)) (fv : List (List Float32))

@[simp] theorem W_cons_bool (x) : W (x :: b) i f n c e bv iv fv = W b i f n c e bv iv fv + 1 := by
  simp +arith only [W, List.length_cons]
@[simp] theorem W_cons_int (x) : W b (x :: i) f n c e bv iv fv = W b i f n c e bv iv fv + 1 := by
  simp +arith only [W, List.length_cons]
@[simp] theorem W_cons_float (x) : W b i (x :: f) n c e bv iv fv = W b i f n c e bv iv fv + 1 := by
  simp +arith only [W, List.length_cons]
@[simp] theorem W_cons_name (x) : W b i f (x :: n) c e bv iv fv = W b i f n c e bv iv fv + (1 + x.length) := by
  simp +arith only [W, sumMap_cons]
@[simp] theorem W_cons_code (x) : W b i f n (x :: c) e bv iv fv = W b i f n c e bv iv fv + x.size := by
  simp +arith only [W, sumMap_cons]
@[simp] theorem W_cons_exec (x) : W b i f n c (x :: e) bv iv fv = W b i f n c e bv iv fv + x.size := by
  simp +arith only [W, sumMap_cons]
@[simp] theorem W_cons_bvec (x) : W b i f n c e (x :: bv) iv fv = W b i f n c e bv iv fv + (1 + x.length) := by
  simp +arith only [W, sumMap_cons]
@[simp] theorem W_cons_ivec (x) : W b i f n c e bv (x :: iv) fv = W b i f n c e bv iv fv + (1 + x.length) := by
  simp +arith only [W, sumMap_cons]
@[simp] theorem W_cons_fvec (x) : W b i f n c e bv iv (x :: fv) = W b i f n c e bv iv fv + (1 + x.length) := by
  simp +arith only [W, sumMap_cons]
end

theorem sumMap_append {α : Type} (f : α → Nat) (a b : List α) : sumMap f (a ++ b) = sumMap f a + sumMap f b := by
  simp [sumMap]

theorem sumMap_perm {α : Type} (f : α → Nat) {l₁ l₂ : List α} (h : l₁.Perm l₂) : sumMap f l₁ = sumMap f l₂ :=
  List.Perm.sum_nat (h.map f)

theorem sumMap_sublist {α : Type} (f : α → Nat) {l₁ l₂ : List α} (h : l₁.Sublist l₂) : sumMap f l₁ ≤ sumMap f l₂ := by
  induction h with
  | slnil => exact Nat.le_refl _
  | cons a _ ih => exact Nat.le_trans ih (Nat.le_add_left _ _)
  | cons_cons a _ ih => exact Nat.add_le_add_left ih _

theorem sumMap_set_le {α : Type} (f : α → Nat) (l : List α) (k : Nat) (x : α) : sumMap f (l.set k x) ≤ sumMap f l + f x := by
  induction l generalizing k with
  | nil => simp
  | cons a t ih =>
    cases k with
    | zero => simp; omega
    | succ k => have := ih k; simp; omega

theorem sumMap_mem_le {α : Type} (f : α → Nat) {l : List α} {x : α} (h : x ∈ l) : f x ≤ sumMap f l := by
  simpa using sumMap_sublist f (List.singleton_sublist.mpr h)

theorem sumMap_getElem_le {α : Type} (f : α → Nat) {l : List α} {k : Nat} {x : α} (h : l[k]? = some x) :
    f x ≤ sumMap f l :=
  sumMap_mem_le f (List.mem_of_getElem? h)

@[simp] theorem sumMap_one {α : Type} (l : List α) : sumMap (fun _ => 1) l = l.length := by
  induction l with
  | nil => rfl
  | cons x l ih => simp [ih]; omega

def Weighted {α : Type} (L : Lens α) (f : α → Nat) : Prop :=
  ∀ (s : State) (l : List α), weight (L.set s l) + sumMap f (L.get s) = weight s + sumMap f l

theorem Weighted.get_le {α : Type} {L : Lens α} {f : α → Nat} (h : Weighted L f) (s : State) :
    sumMap f (L.get s) ≤ weight s := by
  have := h s []
  simp only [sumMap_nil] at this
  omega

theorem Weighted.set_le {α : Type} {L : Lens α} {f : α → Nat} (h : Weighted L f) (s : State) (l : List α) (k : Nat)
    (hl : sumMap f l ≤ sumMap f (L.get s) + k) : weight (L.set s l) ≤ weight s + k := by
  have := h s l
  omega

def tyW : (t : Ty) → t.El → Nat
  | .bool | .int | .float => fun _ => 1
  | .code | .exec => Item.size
  | .name => fun n => 1 + n.length
  | .bvec | .ivec | .fvec => fun v => 1 + v.length

theorem weighted_ty (t : Ty) : Weighted (tyLens t) (tyW t) := by
  intro s l
  cases t <;> simp +arith only [weight_eq_W, tyLens, tyW, Lens.bool, Lens.int, Lens.float, Lens.name, Lens.code, Lens.exec,
    Lens.bvec, Lens.ivec, Lens.fvec, W, sumMap_one]

theorem weighted_name : Weighted Lens.name (fun n => 1 + n.length) := weighted_ty .name
theorem weighted_code : Weighted Lens.code Item.size := weighted_ty .code

/-! the simp set of the growth proofs (`open scoped Peel`): `weight` in the form `R + W`, pushes as record updates; with
the `W_cons_*` rules they peel pops and pushes off both sides -/
namespace Peel
attribute [scoped simp] weight_eq_W pushBool pushInt pushFloat pushName pushCode pushExec
end Peel

end Pushr.C15
