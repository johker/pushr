import Pushr.Item
/-! The tree functions of `Item.lean` come in pairs `f` / `fL` (an item / a list of children). Where `fL` threads no
state through the children it is a `List` operation over `f`; together with the structural induction `Item.induct`
a fact about such a pair is then one induction and a fact about lists. -/
namespace Pushr

theorem Item.induct {P : Item → Prop} (list : ∀ xs, (∀ x ∈ xs, P x) → P (.list xs)) (instr : ∀ i, P (.instr i))
    (lit : ∀ v, P (.lit v)) (ident : ∀ n, P (.ident n)) : ∀ t, P t
  | .list xs => list xs fun x _ => Item.induct list instr lit ident x
  | .instr i => instr i
  | .lit v => lit v
  | .ident n => ident n

theorem Item.sizeL_eq_sum (xs : List Item) : Item.sizeL xs = (xs.map Item.size).sum := by
  induction xs <;> simp_all [Item.sizeL]

theorem Item.pointsL_eq_flatMap (xs : List Item) : Item.pointsL xs = xs.flatMap Item.points := by
  induction xs <;> simp_all [Item.pointsL]

theorem Item.substL_eq_map (xs : List Item) (p sub : Item) : Item.substL xs p sub = xs.map (Item.subst · p sub) := by
  induction xs <;> simp_all [Item.substL]

theorem Item.sizeL_append (a b : List Item) : Item.sizeL (a ++ b) = Item.sizeL a + Item.sizeL b := by
  simp [Item.sizeL_eq_sum]

theorem Item.sizeL_reverse (a : List Item) : Item.sizeL a.reverse = Item.sizeL a := by
  simp [Item.sizeL_eq_sum, List.sum_reverse]

end Pushr
