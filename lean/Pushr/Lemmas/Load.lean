import Pushr.ListRec
import Pushr.Sem
import Pushr.Lemmas.Lens
/-! Taking the top of one stack as a code item: what `T.DEFINE` and the loading of a LIST record have in common
(`popItem`; a successful one is opened by `popAs_some` over the lens, or by `popItem_popTop` stack by stack). -/
namespace Pushr

theorem popAs_some {α : Type} {L : Lens α} {mk : α → Item} {s s' : State} {it : Item}
    (h : popAs L mk s = some (it, s')) : ∃ x l, L.get s = x :: l ∧ it = mk x ∧ s' = L.set s l := by
  unfold popAs at h
  split at h
  · cases h
  · next x l hg => cases h; exact ⟨x, l, hg, rfl, rfl⟩

theorem popAs_cons {α : Type} {L : Lens α} {mk : α → Item} {s : State} {x : α} {l : List α}
    (hg : L.get s = x :: l) : popAs L mk s = some (mk x, L.set s l) := by
  simp only [popAs, hg]

def Ty.item : (t : Ty) → t.El → Item
  | .bool => fun b => .lit (.bool b) | .int => fun i => .lit (.int i) | .float => fun f => .lit (.float f)
  | .name => .ident | .code | .exec => fun c => c
  | .bvec => fun v => .lit (.bvec v) | .ivec => fun v => .lit (.ivec v) | .fvec => fun v => .lit (.fvec v)

def popItem (t : Ty) : State → Option (Item × State) := popAs (tyLens t) t.item

theorem semDefine_eq (t : Ty) (ht : t ≠ .name) (s : State) : semDefine t s = defineWith s (popItem t) := by
  cases t with | name => exact absurd rfl ht | _ => rfl

/-- what a DEFINE instruction can do: nothing (no name, or `t` is NAME), take the name only (no value to bind), or take
name and value and bind them -/
theorem semDefine_induct {Q : State → Prop} (t : Ty) (s : State) (h : Q s)
    (name : ∀ n ns, s.name = n :: ns → Q { s with name := ns })
    (bind : ∀ n ns v s2, s.name = n :: ns → popItem t { s with name := ns } = some (v, s2) →
      Q { s2 with bindings := bindInsert n v s2.bindings }) : Q (semDefine t s) := by
  by_cases ht : t = .name
  · subst ht; exact h
  rw [semDefine_eq t ht]
  unfold defineWith
  split
  · exact h
  · next n ns hn =>
    dsimp only
    split
    · exact name n ns hn
    · next v s2 hv => exact bind n ns v s2 hn hv

/-- the `if` chain is walked with `if_pos` / `if_neg`: `split` would simplify the whole chain again at every step -/
theorem popById_some {s s' : State} {sid : Int32} {it : Item} (h : popById s sid = some (it, s')) :
    ∃ t : Ty, sid = t.id ∧ popItem t s = some (it, s') := by
  unfold popById at h
  by_cases c : (sid == 1) = true
  · rw [if_pos c] at h; split at h <;> cases h; exact ⟨.bool, eq_of_beq c, popAs_cons ‹_›⟩
  rw [if_neg c] at h
  by_cases c : (sid == 2) = true
  · rw [if_pos c] at h; split at h <;> cases h; exact ⟨.bvec, eq_of_beq c, popAs_cons ‹_›⟩
  rw [if_neg c] at h
  by_cases c : (sid == 3) = true
  · rw [if_pos c] at h; split at h <;> cases h; exact ⟨.code, eq_of_beq c, popAs_cons ‹_›⟩
  rw [if_neg c] at h
  by_cases c : (sid == 4) = true
  · rw [if_pos c] at h; split at h <;> cases h; exact ⟨.exec, eq_of_beq c, popAs_cons ‹_›⟩
  rw [if_neg c] at h
  by_cases c : (sid == 5) = true
  · rw [if_pos c] at h; split at h <;> cases h; exact ⟨.float, eq_of_beq c, popAs_cons ‹_›⟩
  rw [if_neg c] at h
  by_cases c : (sid == 6) = true
  · rw [if_pos c] at h; split at h <;> cases h; exact ⟨.fvec, eq_of_beq c, popAs_cons ‹_›⟩
  rw [if_neg c] at h
  by_cases c : (sid == 9) = true
  · rw [if_pos c] at h; split at h <;> cases h; exact ⟨.int, eq_of_beq c, popAs_cons ‹_›⟩
  rw [if_neg c] at h
  by_cases c : (sid == 10) = true
  · rw [if_pos c] at h; split at h <;> cases h; exact ⟨.ivec, eq_of_beq c, popAs_cons ‹_›⟩
  rw [if_neg c] at h
  by_cases c : (sid == 11) = true
  · rw [if_pos c] at h; split at h <;> cases h; exact ⟨.name, eq_of_beq c, popAs_cons ‹_›⟩
  rw [if_neg c] at h; cases h

inductive PopTop (s : State) : Item → State → Prop
  | bool {x l} : s.bool = x :: l → PopTop s (.lit (.bool x)) { s with bool := l }
  | int {x l} : s.int = x :: l → PopTop s (.lit (.int x)) { s with int := l }
  | float {x l} : s.float = x :: l → PopTop s (.lit (.float x)) { s with float := l }
  | name {x l} : s.name = x :: l → PopTop s (.ident x) { s with name := l }
  | code {x l} : s.code = x :: l → PopTop s x { s with code := l }
  | exec {x l} : s.exec = x :: l → PopTop s x { s with exec := l }
  | bvec {x l} : s.bvec = x :: l → PopTop s (.lit (.bvec x)) { s with bvec := l }
  | ivec {x l} : s.ivec = x :: l → PopTop s (.lit (.ivec x)) { s with ivec := l }
  | fvec {x l} : s.fvec = x :: l → PopTop s (.lit (.fvec x)) { s with fvec := l }

theorem popItem_popTop {t : Ty} {s s' : State} {it : Item} (h : popItem t s = some (it, s')) : PopTop s it s' := by
  cases t <;> (obtain ⟨x, l, hg, rfl, rfl⟩ := popAs_some h; constructor; exact hg)

theorem loadFold_induct {P : List Item → State → Prop} (ids : List Int32) {s : State} {acc : List Item}
    (h0 : P acc s) (step : ∀ {acc s t it s'}, P acc s → popItem t s = some (it, s') → P (acc ++ [it]) s') :
    P (loadFold ids s acc).1 (loadFold ids s acc).2 := by
  fun_induction loadFold ids s acc with
  | case1 => exact h0
  | case2 sid ids s acc it s' hp ih =>
    obtain ⟨t, _, ht⟩ := popById_some hp
    exact ih (step h0 ht)
  | case3 sid ids s acc _ ih => exact ih h0

theorem loadItems_some {s s' : State} {r : Item} (h : loadItems s = some (r, s')) :
    ∃ ids l, s.ivec = ids :: l ∧ r = .list (loadFold ids { s with ivec := l } []).1.reverse ∧
      s' = (loadFold ids { s with ivec := l } []).2 := by
  unfold loadItems at h
  split at h
  · cases h
  · next ids l hv => cases h; exact ⟨ids, l, hv, rfl, rfl⟩

end Pushr
