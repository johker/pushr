import Pushr.Props.C05
/-! What a generic stack instruction (`stkOp`, for any lens) can do to the state, as a case principle. (Above
`Props/C05` in the import graph: YANK and SHOVE are permutations, `C05.yank_perm` / `shove_perm`.) -/
namespace Pushr

/-- what a generic stack instruction puts in the place of the stack `l`: some of its items in their order, all of
them in another order, or all of them under one more copy of one -/
inductive StkNew {α : Type} (l : List α) : List α → Prop
  | sub {l'} : l'.Sublist l → StkNew l l'
  | perm {l'} : l'.Perm l → StkNew l l'
  | copy {x} : x ∈ l → StkNew l (x :: l)

theorem StkNew.subset {α : Type} {l l' : List α} (h : StkNew l l') : l' ⊆ l := by
  cases h with
  | sub h => exact h.subset
  | perm h => exact h.subset
  | copy h => exact List.cons_subset.mpr ⟨h, List.Subset.refl _⟩

/-- what a generic stack instruction can do: nothing, push an INTEGER, or (possibly after taking the INTEGER index) put
a `StkNew` of the stack in its place -/
theorem stkOp_cases {α : Type} (L : Lens α) (t : Ty) (o : SOp) (s : State) {Q : State → Prop} (h : Q s)
    (push : ∀ n, Q (pushInt s n)) (set : ∀ l', StkNew (L.get s) l' → Q (L.set s l'))
    (index : ∀ i il l', s.int = i :: il → StkNew (L.get { s with int := il }) l' → Q (L.set { s with int := il } l')) :
    Q (stkOp L t o s) := by
  have indexed : ∀ f : List α → Nat → List α, (∀ l k, StkNew l (f l k)) → Q (withIndex L s f) := fun f hf => by
    unfold withIndex
    split
    · exact h
    · next i il hi => exact index i il _ hi (hf _ _)
  cases o <;> simp only [stkOp]
  case dup =>
    split
    · exact h
    · next x l hl => exact set _ (by rw [hl]; exact .copy List.mem_cons_self)
  case pop => exact set _ (.sub (List.tail_sublist _))
  case swap => exact set _ (.perm (C05.shove_perm _ 1))
  case rot => exact set _ (.perm (C05.yank_perm _ 2))
  case yank => exact indexed _ fun l k => .perm (C05.yank_perm l k)
  case shove => exact indexed _ fun l k => .perm (C05.shove_perm l k)
  case yankdup =>
    refine indexed _ fun l k => ?_
    split
    · next y hy => exact .copy (List.mem_of_getElem? hy)
    · exact .sub (List.Sublist.refl _)
  case flush => exact set _ (.sub (List.nil_sublist _))
  case depth => exact push _
  case id => exact push _

end Pushr
