import Pushr.Sem
/-! The nine stack lenses as one family indexed by `Ty`, so that a fact about "the stack of type `t`" is stated and
proved once instead of nine times. -/
namespace Pushr

@[reducible] def Ty.El : Ty → Type
  | .bool => Bool | .int => Int32 | .float => Float32 | .name => String | .code | .exec => Item
  | .bvec => List Bool | .ivec => List Int32 | .fvec => List Float32

def tyLens : (t : Ty) → Lens t.El
  | .bool => Lens.bool | .int => Lens.int | .float => Lens.float | .name => Lens.name | .code => Lens.code
  | .exec => Lens.exec | .bvec => Lens.bvec | .ivec => Lens.ivec | .fvec => Lens.fvec

theorem semStk_eq (t : Ty) (o : SOp) (s : State) : semStk t o s = stkOp (tyLens t) t o s := by cases t <;> rfl

end Pushr
