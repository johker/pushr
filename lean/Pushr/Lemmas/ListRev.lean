/-! List lemmas relating index arithmetic on a reversed list (Vec order vs. stack order):
index `l.length - (i + 1)` of `l` is index `i` of `l.reverse`. -/
namespace Pushr.L
variable {α : Type}

theorem getElem?_reverse' (l : List α) (i : Nat) (h : i < l.length) :
    l.reverse[i]? = l[l.length - (i + 1)]? :=
  List.getElem?_reverse' (by omega)

theorem reverse_take' (l : List α) (n : Nat) (h : n ≤ l.length) :
    (l.take (l.length - n)).reverse = l.reverse.drop n := by
  rw [List.reverse_take, Nat.sub_sub_self h]

theorem reverse_drop' (l : List α) (n : Nat) (h : n ≤ l.length) :
    (l.drop (l.length - n)).reverse = l.reverse.take n := by
  rw [List.reverse_drop, Nat.sub_sub_self h]

/-- `Vec::insert` at `len - i` is insertion at position `i` -/
theorem reverse_insert (l : List α) (i : Nat) (x : α) (h : i ≤ l.length) :
    (l.take (l.length - i) ++ x :: l.drop (l.length - i)).reverse = l.reverse.take i ++ x :: l.reverse.drop i := by
  rw [List.reverse_append, List.reverse_cons, reverse_drop' l i h, reverse_take' l i h, List.append_assoc]; rfl

theorem reverse_eraseIdx (l : List α) (i : Nat) (h : i < l.length) :
    (l.eraseIdx (l.length - (i + 1))).reverse = l.reverse.eraseIdx i := by
  rw [List.eraseIdx_eq_take_drop_succ, List.eraseIdx_eq_take_drop_succ, List.reverse_append,
    show l.length - (i + 1) + 1 = l.length - i by omega, reverse_take' l _ h, reverse_drop' l _ (Nat.le_of_lt h)]

theorem reverse_set (l : List α) (i : Nat) (x : α) (h : i < l.length) :
    (l.set (l.length - (i + 1)) x).reverse = l.reverse.set i x := by
  rw [List.set_eq_take_append_cons_drop, List.set_eq_take_append_cons_drop, if_pos (by omega),
    if_pos (by simpa using h), List.reverse_append, List.reverse_cons, List.append_assoc,
    show l.length - (i + 1) + 1 = l.length - i by omega, reverse_take' l _ h, reverse_drop' l _ (Nat.le_of_lt h)]
  rfl

end Pushr.L
