import Pushr.Spec.C05
import Pushr.Interp
/-! # C05 — stack manipulation acts uniformly on every stack and conserves items

For each of the nine stack types and each operation the model equals the declarative position-map statement
`C05.expectTy` (index taken from INTEGER first, clamped, position 0 = top): the position maps are `yank_pos` /
`shove_pos`, and a list read through a map that keeps positions inside it is the list rebuilt from the map
(`eq_remap`). YANK and SHOVE (hence SWAP = SHOVE 1 and ROT = YANK 2) are permutations. -/
namespace Pushr.C05
open Pushr

variable {α : Type}

theorem clampIdx_lt (len : Nat) (i : Int32) (h : 0 < len) : clampIdx len i < len := by
  unfold clampIdx; omega

theorem clampIdx_cases (len : Nat) (i : Int32) (h : 0 < len) :
    (i.toInt < 0 ∧ clampIdx len i = 0) ∨
    (0 ≤ i.toInt ∧ i.toInt < len ∧ (clampIdx len i : Int) = i.toInt) ∨
    ((len : Int) ≤ i.toInt ∧ clampIdx len i = len - 1) := by
  unfold clampIdx; omega

theorem yank_perm (l : List α) (i : Nat) : (Seq.yank l i).Perm l := by
  unfold Seq.yank
  split
  · next x h =>
    split
    · exact .refl _
    · -- `l = take i ++ x :: drop (i + 1)`, and `x` has moved to the front
      obtain ⟨hi, rfl⟩ := List.getElem?_eq_some_iff.mp h
      have := (List.perm_middle (a := l[i]) (l₁ := l.take i) (l₂ := l.drop (i + 1))).symm
      rwa [← List.drop_eq_getElem_cons hi, List.take_append_drop, ← List.eraseIdx_eq_take_drop_succ] at this
  · exact .refl _

theorem shove_perm (l : List α) (i : Nat) : (Seq.shove l i).Perm l := by
  unfold Seq.shove
  split
  · exact .refl _
  · next x t =>
    split
    · have := List.perm_middle (a := x) (l₁ := t.take i) (l₂ := t.drop i)
      rwa [List.take_append_drop] at this
    · exact .refl _

theorem yank_pos (l : List α) (k : Nat) (h0 : 0 < k) (hk : k < l.length) (j : Nat) :
    (Seq.yank l k)[j]? = l[yankMap k j]? := by
  simp only [Seq.yank, List.getElem?_eq_getElem hk, show ¬ k = 0 by omega, if_false, yankMap]
  cases j with
  | zero => exact (List.getElem?_eq_getElem hk).symm
  | succ j =>
    rw [List.getElem?_cons_succ, List.getElem?_eraseIdx, if_neg (Nat.succ_ne_zero j)]
    split
    · rw [if_pos (by omega)]; rfl
    · rw [if_neg (by omega)]

theorem shove_pos (l : List α) (k : Nat) (h0 : 0 < k) (hk : k < l.length) (j : Nat) :
    (Seq.shove l k)[j]? = l[shoveMap k j]? := by
  cases l with
  | nil => cases hk
  | cons x t =>
    have hkt : k ≤ t.length := Nat.le_of_lt_succ hk
    simp only [Seq.shove, h0, hk, and_self, if_true, shoveMap, List.getElem?_append, List.getElem?_take,
      List.length_take, Nat.min_eq_left hkt]
    split
    · rfl
    · by_cases hjk : j = k
      · rw [if_pos hjk, hjk, Nat.sub_self]; rfl
      · rw [if_neg hjk, List.getElem?_cons, if_neg (by omega), List.getElem?_drop, List.getElem?_cons,
          if_neg (by omega)]
        congr 1; omega

theorem yankMap_lt {k n : Nat} (hk : k < n) (j : Nat) : yankMap k j < n ↔ j < n := by
  unfold yankMap; split
  · omega
  · split <;> omega

theorem shoveMap_lt {k n : Nat} (hk : k < n) (j : Nat) : shoveMap k j < n ↔ j < n := by
  unfold shoveMap; split
  · omega
  · split <;> omega

theorem getElem?_guard {l : List α} {f : Nat → Nat} (hf : ∀ j, f j < l.length ↔ j < l.length) (j : Nat) :
    (if j < l.length then l[f j]? else none) = l[f j]? := by
  split
  · rfl
  · next hj => exact (List.getElem?_eq_none (Nat.le_of_not_lt (mt (hf j).mp hj))).symm

theorem yank_getElem? (l : List α) (k : Nat) (h0 : 0 < k) (hk : k < l.length) (j : Nat) :
    (Seq.yank l k)[j]? = if j < l.length then l[yankMap k j]? else none :=
  (yank_pos l k h0 hk j).trans (getElem?_guard (yankMap_lt hk) j).symm

theorem shove_getElem? (l : List α) (k : Nat) (h0 : 0 < k) (hk : k < l.length) (j : Nat) :
    (Seq.shove l k)[j]? = if j < l.length then l[shoveMap k j]? else none :=
  (shove_pos l k h0 hk j).trans (getElem?_guard (shoveMap_lt hk) j).symm

theorem remapFrom_getElem? (l : List α) (f : Nat → Nat) (n start : Nat)
    (hf : ∀ j, start ≤ j → j < start + n → f j < l.length) (i : Nat) :
    (remapFrom l f n start)[i]? = if i < n then l[f (start + i)]? else none := by
  induction n generalizing start i with
  | zero => simp [remapFrom]
  | succ n ih =>
    have h0 : f start < l.length := hf start (Nat.le_refl _) (by omega)
    simp only [remapFrom, List.getElem?_eq_getElem h0]
    cases i with
    | zero => simp [List.getElem?_eq_getElem h0]
    | succ i =>
      simp only [List.getElem?_cons_succ]
      rw [ih (start + 1) (fun j h1 h2 => hf j (by omega) (by omega)) i]
      simp only [Nat.add_lt_add_iff_right, show start + 1 + i = start + (i + 1) by omega]

theorem remap_getElem? (l : List α) (f : Nat → Nat) (hf : ∀ j, f j < l.length ↔ j < l.length) (i : Nat) :
    (remap l l.length f)[i]? = l[f i]? := by
  rw [remap, remapFrom_getElem? l f l.length 0 (fun j _ h => (hf j).mpr (by omega)) i, Nat.zero_add]
  exact getElem?_guard hf i

theorem eq_remap {l l' : List α} {f : Nat → Nat} (hf : ∀ j, f j < l.length ↔ j < l.length)
    (h : ∀ j, l'[j]? = l[f j]?) : l' = remap l l.length f :=
  List.ext_getElem? fun j => (h j).trans (remap_getElem? l f hf j).symm

theorem yank_short (l : List α) {k : Nat} (h : l.length ≤ k) : Seq.yank l k = l := by
  unfold Seq.yank
  rw [List.getElem?_eq_none h]

theorem shove_short (l : List α) {k : Nat} (h : l.length ≤ k) : Seq.shove l k = l := by
  unfold Seq.shove
  cases l with
  | nil => rfl
  | cons x t => exact if_neg fun hk => Nat.not_lt.mpr h hk.2

theorem yank_target (l : List α) (k : Nat) : Seq.yank l k = target .yank l k := by
  simp only [target]
  split
  · next h =>
    rcases h with rfl | h
    · unfold Seq.yank; split <;> simp
    · exact yank_short l h
  · next h => exact eq_remap (yankMap_lt (by omega)) (yank_pos l k (by omega) (by omega))

theorem shove_target (l : List α) (k : Nat) : Seq.shove l k = target .shove l k := by
  simp only [target]
  split
  · next h =>
    rcases h with rfl | h
    · unfold Seq.shove; split <;> simp
    · exact shove_short l h
  · next h => exact eq_remap (shoveMap_lt (by omega)) (shove_pos l k (by omega) (by omega))

theorem swap_eq_shove (l : List α) (k : Nat) : target .swap l k = target .shove l 1 :=
  ite_congr (propext (by omega)) (fun _ => rfl) (fun _ => rfl)

theorem rot_eq_yank (l : List α) (k : Nat) : target .rot l k = target .yank l 2 :=
  ite_congr (propext (by omega)) (fun _ => rfl) (fun _ => rfl)

theorem stkOp_eq_expect (L : Lens α) (hL : ∀ s, L.set s (L.get s) = s) (t : Ty) (o : SOp) (s : State) :
    stkOp L t o s = expect L t o s := by
  cases o <;> simp only [stkOp, expect, usesIndex, withIndex, if_true, if_false, Bool.false_eq_true]
  case dup =>
    simp only [target]
    cases h : L.get s with
    -- DUP on an empty stack is `s` in the model and `L.set s (L.get s)` in the specification: the one use of `hL`
    | nil => dsimp only; rw [← h, hL]
    | cons x l => rfl
  case pop => simp [target]
  case swap => rw [swap_eq_shove, shove_target]
  case rot => rw [rot_eq_yank, yank_target]
  case yank => cases s.int <;> simp only [yank_target]
  case shove => cases s.int <;> simp only [shove_target]
  case yankdup => cases s.int <;> simp only [target] <;> rfl
  case flush => simp [target]

/-- **C05 (uniformity).** Each of the nine per-type instruction families is the same position map -/
theorem stk_meets_spec (t : Ty) (o : SOp) (s : State) : semStk t o s = expectTy t o s := by
  cases t <;> exact stkOp_eq_expect _ (fun _ => rfl) _ _ _

/-- YANK, SHOVE, SWAP and ROT permute the target stack (after the index has been taken) -/
theorem target_perm (o : SOp) (ho : o = .yank ∨ o = .shove ∨ o = .swap ∨ o = .rot) (l : List α) (k : Nat) :
    (target o l k).Perm l := by
  rcases ho with rfl | rfl | rfl | rfl
  · rw [← yank_target]; exact yank_perm l k
  · rw [← shove_target]; exact shove_perm l k
  · rw [swap_eq_shove, ← shove_target]; exact shove_perm l 1
  · rw [rot_eq_yank, ← yank_target]; exact yank_perm l 2

theorem dup_adds_top (x : α) (l : List α) : target .dup (x :: l) 0 = x :: x :: l := rfl
theorem yankdup_adds_existing (l : List α) (k : Nat) (hk : k < l.length) :
    target .yankdup l k = l[k] :: l := by
  simp [target, List.getElem?_eq_getElem hk]
theorem pop_removes_top (x : α) (l : List α) : target .pop (x :: l) 0 = l := rfl
theorem flush_empties (l : List α) : target .flush l 0 = [] := rfl

/-- STACKDEPTH pushes one INTEGER and changes nothing else -/
theorem depth_frame (t : Ty) (s : State) :
    ∃ d, semStk t .depth s = { s with int := d :: s.int } := by
  cases t <;> exact ⟨_, rfl⟩

theorem int_depth_counts_itself (s : State) :
    semStk .int .depth s = { s with int := lenI32 (s.int.length + 1) :: s.int } := rfl

/-! non-vacuity: the four rearrangements on short stacks (top first) -/
example : target .yank [1, 2, 3, 4] 2 = [3, 1, 2, 4] := by decide
example : target .shove [1, 2, 3, 4] 2 = [2, 3, 1, 4] := by decide
example : target .swap [1, 2, 3] 0 = [2, 1, 3] := by decide
example : target .rot [1, 2, 3, 4] 0 = [3, 1, 2, 4] := by decide

end Pushr.C05
