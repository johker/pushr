import Pushr.Props.C03_Order
import Pushr.Print
import Pushr.Item
/-! # C11 — printing a program and parsing the text back reproduces the program

Proved at the token level: the printed form of a tree is the token sequence `renderS` ("(", the
printed leaves, ")"); if every leaf's printed form classifies back to that leaf (`LeafRT`, a
statement about one token each), parsing the tokens gives the tree back — for every nesting and
every size. The second half of the file proves the character-level fact that white-space splitting of
the printed STRING gives those tokens (`tok_show`, `print_tokens`, `parse_print_string`). What stays a
per-leaf hypothesis — validated by the correspondence check on every generated tree — is that a single
vector literal / name prints to one word (`WordLeaves`) and that a float / vector literal / name classifies back
to itself (`LeafRT`); integers, booleans, floats and instruction names are proved to print as one word. -/
namespace Pushr.C11
open Pushr Pushr.Parse

mutual
def renderS : Item → List String
  | .list xs => "(" :: (renderSL xs ++ [")"])
  | t => [t.show]
def renderSL : List Item → List String
  | [] => []
  | t :: ts => renderS t ++ renderSL ts
end

mutual
def LeafRT (isInstr : String → Bool) : Item → Prop
  | .list xs => LeafRTL isInstr xs
  | t => classify isInstr t.show = .atom t
def LeafRTL (isInstr : String → Bool) : List Item → Prop
  | [] => True
  | t :: ts => LeafRT isInstr t ∧ LeafRTL isInstr ts
end

theorem classify_lp (f : String → Bool) : classify f "(" = .lp := by
  simp [classify, startsWith]
theorem classify_rp (f : String → Bool) : classify f ")" = .rp := by
  simp [classify, startsWith]

mutual
theorem classify_tokens (f : String → Bool) (t : Item) (h : LeafRT f t) :
    (renderS t).map (classify f) = C03.render t := by
  cases t with
  | list xs =>
    simp only [renderS, C03.render, List.map_cons, List.map_append, List.map_nil, classify_lp, classify_rp]
    rw [classify_tokensL f xs h]
  | _ => exact congrArg (fun x => [x]) h
theorem classify_tokensL (f : String → Bool) (ts : List Item) (h : LeafRTL f ts) :
    (renderSL ts).map (classify f) = C03.renderL ts := by
  cases ts with
  | nil => rfl
  | cons t ts =>
    simp only [renderSL, C03.renderL, List.map_append]
    rw [classify_tokens f t h.1, classify_tokensL f ts h.2]
end

/-- **C11 (token level).** Parsing the printed tokens of a forest whose leaves round-trip yields the
forest, structurally — any nesting, any size -/
theorem parse_print_tokens (f : String → Bool) (ts : List Item) (h : LeafRTL f ts) :
    revL (parseToks ((renderSL ts).map (classify f)) ([], 0)).1 [] = ts := by
  rw [classify_tokensL f ts h]
  exact C03.parse_render_roundtrip ts

def PrintTokens (t : Item) : Prop := tokenize t.show = renderS t

/-- **C11.** `parse (print t) = [t]` for every item whose leaves round-trip (`hp` is the theorem `print_tokens` below) -/
theorem parse_print (f : String → Bool) (t : Item) (hp : PrintTokens t) (hl : LeafRT f t) :
    parseProgram f [] t.show = [t] := by
  unfold parseProgram
  rw [hp, show revL ([] : List Item) [] = [] by rfl]
  have := parse_print_tokens f [t] ⟨hl, trivial⟩
  simpa [renderSL] using this

/-! non-vacuity: concrete leaves (an integer, a boolean, a name) round-trip -/
example : (match classify (fun _ => false) (Item.lit (.int (-2147483648))).show with
  | .atom (.lit (.int v)) => v == -2147483648 | _ => false) = true := by decide
example : (match classify (fun _ => false) (Item.lit (.bool true)).show with
  | .atom (.lit (.bool b)) => b | _ => false) = true := by decide
example : (match classify (fun _ => false) (Item.ident "foo").show with
  | .atom (.ident n) => n == "foo" | _ => false) = true := by decide
example : tokenize (Item.list [.lit (.int 1), .list [], .ident "a"]).show = ["(", "1", "(", ")", "a", ")"] := by decide

def tok (l : List Char) : List (List Char) := splitWs l []

theorem splitWs_append_ws (l1 l2 cur : List Char) (c : Char) (hc : isWs c = true) :
    splitWs (l1 ++ c :: l2) cur = splitWs l1 cur ++ splitWs l2 [] := by
  induction l1 generalizing cur with
  | nil => simp only [List.nil_append, splitWs, hc, if_true]; split <;> rfl
  | cons x l1 ih =>
    simp only [List.cons_append, splitWs]
    split
    · split
      · exact ih []
      · simp [ih []]
    · exact ih (x :: cur)

theorem tok_append_ws (l1 l2 : List Char) (c : Char) (hc : isWs c = true) :
    tok (l1 ++ c :: l2) = tok l1 ++ tok l2 :=
  splitWs_append_ws l1 l2 [] c hc

theorem dropWhile_ignored {α β : Type} (p : α → Bool) (F : List α → β)
    (hF : ∀ a l, p a = true → F (a :: l) = F l) (l : List α) : F (l.dropWhile p) = F l := by
  induction l with
  | nil => rfl
  | cons a l ih =>
    rw [List.dropWhile_cons]
    split
    · next h => rw [ih, hF a l h]
    · rfl

theorem tok_trimChars (l : List Char) : tok (trimChars l) = tok l := by
  have front := dropWhile_ignored isWs tok fun c l h => tok_append_ws [] l c h
  have back := dropWhile_ignored isWs (fun r => tok r.reverse) fun c r h => by
    rw [List.reverse_cons, tok_append_ws _ [] c h]; exact List.append_nil _
  rw [trimChars, trimL, trimL, back, List.reverse_reverse, front]

def wsFree (w : List Char) : Bool := !w.isEmpty && w.all fun c => !isWs c

theorem splitWs_word (w cur : List Char) (h : w.all (fun c => !isWs c) = true) :
    splitWs w cur = if (w.reverse ++ cur).isEmpty then [] else [(w.reverse ++ cur).reverse] := by
  induction w generalizing cur with
  | nil => simp [splitWs]
  | cons c w ih =>
    simp only [List.all_cons, Bool.and_eq_true, Bool.not_eq_true'] at h
    simp only [splitWs, h.1, Bool.false_eq_true, if_false]
    rw [ih (c :: cur) h.2]
    simp

theorem tok_word (w : List Char) (h : wsFree w = true) : tok w = [w] := by
  simp only [wsFree, Bool.and_eq_true, Bool.not_eq_true'] at h
  unfold tok
  rw [splitWs_word w [] h.2]
  cases w <;> simp_all

theorem tok_spaced (a : List Char) (S : List String) :
    tok (a ++ (S.map fun s => " " ++ s).flatMap String.toList) = tok a ++ S.flatMap fun s => tok s.toList := by
  induction S generalizing a with
  | nil => simp
  | cons s S ih =>
    simp only [List.map_cons, List.flatMap_cons, String.toList_append, show " ".toList = [' '] by decide,
      List.cons_append, List.nil_append]
    rw [tok_append_ws a _ ' ' (by decide), ih]

theorem tok_showStack (S : List String) : tok (showStack S).toList = S.flatMap fun s => tok s.toList := by
  unfold showStack trim
  rw [String.toList_ofList, tok_trimChars, String.toList_join]
  exact tok_spaced [] S

mutual
def toksC : Item → List (List Char)
  | .list xs => ['('] :: (toksCL xs ++ [[')']])
  | t => tok t.show.toList
def toksCL : List Item → List (List Char)
  | [] => []
  | x :: xs => toksC x ++ toksCL xs
end

mutual
/-- **tokenizing the printed text of any item yields "(" elements… ")" recursively**, with no
hypothesis at all on the atoms: whatever an atom prints is tokenized on its own -/
theorem tok_show (t : Item) : tok t.show.toList = toksC t := by
  cases t with
  | list xs =>
    have hws : isWs ' ' = true := by decide
    simp only [Item.show, String.toList_append, toksC, show "( ".toList = ['(', ' '] by decide,
      show " )".toList = [' ', ')'] by decide]
    rw [show ['(', ' '] ++ (showStack (Item.showL xs)).toList ++ [' ', ')']
        = ['('] ++ ' ' :: ((showStack (Item.showL xs)).toList ++ ' ' :: [')']) by simp,
      tok_append_ws ['('] _ ' ' hws, tok_append_ws _ [')'] ' ' hws, tok_showStack, tok_showL xs]
    rfl
  | _ => rfl
theorem tok_showL (xs : List Item) : ((Item.showL xs).flatMap fun s => tok s.toList) = toksCL xs := by
  cases xs with
  | nil => rfl
  | cons x xs => simp only [Item.showL, List.flatMap_cons, toksCL]; rw [tok_show x, tok_showL xs]
end

mutual
def WordLeaves : Item → Prop
  | .list xs => WordLeavesL xs
  | t => wsFree t.show.toList = true
def WordLeavesL : List Item → Prop
  | [] => True
  | t :: ts => WordLeaves t ∧ WordLeavesL ts
end

mutual
theorem toksC_render (t : Item) (h : WordLeaves t) : (toksC t).map String.ofList = renderS t := by
  cases t with
  | list xs =>
    simp only [toksC, renderS, List.map_cons, List.map_append, List.map_nil]
    rw [toksCL_render xs h]
  | _ => simp only [toksC, renderS]; rw [tok_word _ h]; simp
theorem toksCL_render (ts : List Item) (h : WordLeavesL ts) : (toksCL ts).map String.ofList = renderSL ts := by
  cases ts with
  | nil => rfl
  | cons t ts =>
    simp only [toksCL, renderSL, List.map_append]
    rw [toksC_render t h.1, toksCL_render ts h.2]
end

/-- **the character-level hypothesis of `parse_print` is a theorem** as soon as each leaf prints as one
white-space-free word -/
theorem print_tokens (t : Item) (h : WordLeaves t) : PrintTokens t :=
  (congrArg (List.map String.ofList) (tok_show t)).trans (toksC_render t h)

/-- **C11 (string level).** `parse (print t) = [t]` for every item each of whose leaves prints as one
word that classifies back to the same leaf -/
theorem parse_print_string (f : String → Bool) (t : Item) (hw : WordLeaves t) (hl : LeafRT f t) :
    parseProgram f [] t.show = [t] :=
  parse_print f t (print_tokens t hw) hl

/-! ## words

A *word* is a non-empty string of characters that neither end a token nor send it to the vector-literal
or parenthesis rule of the cascade: it is one token (`isWord_wsFree`) and reaches the instruction test
(`isWord_plain`). Integers, booleans, floats and instruction names print as words. -/

def wordChar (c : Char) : Bool := !isWs c && c != '[' && c != '(' && c != ')'

def isWord (w : List Char) : Bool := !w.isEmpty && w.all wordChar

theorem isWord_iff {w : List Char} : isWord w = true ↔ w ≠ [] ∧ ∀ c ∈ w, wordChar c = true := by
  simp [isWord]

theorem isWord_all {w : List Char} (h : isWord w = true) : w.all wordChar = true :=
  List.all_eq_true.mpr (isWord_iff.mp h).2

theorem wordChar_iff {c : Char} : wordChar c = true ↔ isWs c = false ∧ c ≠ '[' ∧ c ≠ '(' ∧ c ≠ ')' := by
  simp [wordChar, and_assoc]

theorem isWord_wsFree {w : List Char} (h : isWord w = true) : wsFree w = true := by
  rw [isWord_iff] at h
  simp only [wsFree, Bool.and_eq_true, List.all_eq_true, Bool.not_eq_true', List.isEmpty_eq_false_iff]
  exact ⟨h.1, fun c hc => (wordChar_iff.mp (h.2 c hc)).1⟩

theorem isWord_plain {w : String} (h : isWord w.toList = true) : C03.Plain w :=
  C03.plain_of_no_bracket w fun c hc => (wordChar_iff.mp ((isWord_iff.mp h).2 c hc)).2

theorem isWord_append {a b : String} (ha : isWord a.toList = true) (hb : b.toList.all wordChar = true) :
    isWord (a ++ b).toList = true := by
  rw [isWord_iff] at ha ⊢
  rw [String.toList_append]
  exact ⟨fun e => ha.1 (List.append_eq_nil_iff.mp e).1,
    fun c hc => (List.mem_append.mp hc).elim (ha.2 c) (List.all_eq_true.mp hb c)⟩

theorem isWs_of_isDigit (c : Char) (h : c.isDigit = true) : isWs c = false := by
  have : 48 ≤ c.toNat ∧ c.toNat ≤ 57 := Char.isDigit_iff_toNat.mp h
  simp only [isWs, Bool.or_eq_false_iff, Bool.and_eq_false_iff, decide_eq_false_iff_not, beq_eq_false_iff_ne]
  omega

theorem wordChar_digit (c : Char) (h : c.isDigit = true) : wordChar c = true := by
  refine wordChar_iff.mpr ⟨isWs_of_isDigit c h, ?_, ?_, ?_⟩ <;> rintro rfl <;> exact absurd h (by decide)

theorem toDigits_isDigit (n : Nat) : ∀ c ∈ Nat.toDigits 10 n, c.isDigit = true :=
  fun _ => Nat.isDigit_of_mem_toDigits (by decide) (by decide)

theorem isWord_natRepr (n : Nat) : isWord (toString n).toList = true := by
  show isWord n.repr.toList = true
  rw [Nat.toList_repr, isWord_iff]
  exact ⟨Nat.toDigits_ne_nil, fun c hc => wordChar_digit c (toDigits_isDigit n c hc)⟩

theorem isWord_int (i : Int32) : isWord (showI32 i).toList = true := by
  rw [showI32, Int.toString_eq_repr, Int.repr_eq_if]
  split
  · exact isWord_natRepr _
  · exact isWord_append (by decide) (isWord_all (isWord_natRepr _))

theorem wsFree_int (i : Int32) : WordLeaves (.lit (.int i)) := isWord_wsFree (isWord_int i)

/-- the last two facts are for `not_isName`: a registered name is `NOOP` or contains a dot -/
theorem showBool_facts (b : Bool) :
    isWord (showBool b).toList = true ∧ parseI32 (showBool b).toList = none ∧
    parseF32 (showBool b).toList = none ∧ 'N' ∉ (showBool b).toList ∧ '.' ∉ (showBool b).toList := by
  cases b <;> decide

theorem wsFree_bool (b : Bool) : WordLeaves (.lit (.bool b)) := isWord_wsFree (showBool_facts b).1

/-! ### floats: each prints as one word (no float is claimed to parse back to itself) -/

theorem isWord_fixed_body (ip fp : Nat) :
    isWord (toString ip ++ "." ++ F32.padLeft (toString fp) 3 '0').toList = true := by
  refine isWord_append (isWord_append (isWord_natRepr ip) (by decide)) ?_
  rw [F32.padLeft, String.toList_append, String.toList_ofList, List.all_append, List.all_replicate,
    isWord_all (isWord_natRepr fp), show wordChar '0' = true by decide]
  simp

/-- **every float prints as one white-space-free word** (`{:.3}` of any f32, NaN and infinities included) -/
theorem wsFree_float (x : Float32) : WordLeaves (.lit (.float x)) := by
  show wsFree (F32.fmtFixed x 3).toList = true
  apply isWord_wsFree
  unfold F32.fmtFixed
  split
  · decide
  · split
    · split <;> decide
    · simp only [show ((3 : Nat) == 0) = false from rfl, Bool.false_eq_true, if_false]
      split
      · exact isWord_append (by decide) (isWord_all (isWord_fixed_body _ _))
      · exact isWord_fixed_body _ _

/-! ### instruction names: `Instr.str` is a prefix, a dot and a suffix, each a literal of `Names.lean` -/

/-- a literal is unified with `String.ofList` of its characters, which spares the kernel the UTF-8 decoding of
`String.toList` -/
theorem ofList_toList (P : List Char → Prop) (l : List Char) (h : P l) : P (String.ofList l).toList := by
  rwa [String.toList_ofList]

theorem isWord_str (i : Instr) (h : ∀ s, i ≠ .unknown s) : isWord i.str.toList = true := by
  have word := ofList_toList (isWord · = true)
  have chars := ofList_toList (·.all wordChar = true)
  have ty : ∀ t : Ty, isWord t.pre.toList = true := fun t => by cases t <;> exact word _ (by decide)
  have vty : ∀ t : VTy, isWord t.pre.toList = true := fun t => by cases t <;> exact word _ (by decide)
  have dot : ".".toList.all wordChar = true := chars _ (by decide)
  cases i with
  | unknown s => exact absurd rfl (h s)
  | noop => exact word _ (by decide)
  | stk t o => exact isWord_append (isWord_append (ty t) dot) (by cases o <;> exact chars _ (by decide))
  | vec t o => exact isWord_append (isWord_append (vty t) dot) (by cases o <;> exact chars _ (by decide))
  | define t => exact isWord_append (ty t) (chars _ (by decide))
  | io o => cases o <;> exact word _ (by decide)
  | boolean o | integer o | float o | name o | code o | exec o | index o | list o | graph o =>
    exact isWord_append (word _ (by decide)) (by cases o <;> exact chars _ (by decide))

theorem wsFree_instr (i : Instr) (h : ∀ s, i ≠ .unknown s) : WordLeaves (.instr i) :=
  isWord_wsFree (isWord_str i h)

theorem str_dot (i : Instr) (h : ∀ s, i ≠ .unknown s) : i = .noop ∨ '.' ∈ i.str.toList := by
  cases i with
  | unknown s => exact absurd rfl (h s)
  | noop => exact .inl rfl
  | io o => cases o <;> exact .inr (ofList_toList ('.' ∈ ·) _ (by decide))
  | _ => exact .inr (by simp [Instr.str])

/-! ### the table: distinct names, so `Instr.ofName` inverts `Instr.str` on the registered instructions -/

def parts : Instr → List String
  | .stk t o => [t.pre, ".", o.suf]
  | .vec t o => [t.pre, ".", o.suf]
  | .define t => [t.pre, ".DEFINE"]
  | .boolean o => ["BOOLEAN.", o.suf]
  | .integer o => ["INTEGER.", o.suf]
  | .float o => ["FLOAT.", o.suf]
  | .name o => ["NAME.", o.suf]
  | .code o => ["CODE.", o.suf]
  | .exec o => ["EXEC.", o.suf]
  | .index o => ["INDEX.", o.suf]
  | .list o => ["LIST.", o.suf]
  | .graph o => ["GRAPH.", o.suf]
  | i => [i.str]

theorem str_toList (i : Instr) : i.str.toList = (parts i).flatMap String.toList := by
  cases i <;> simp only [Instr.str, parts, String.toList_append, List.flatMap_cons, List.flatMap_nil,
    List.append_nil, List.append_assoc]

/-- Boolean `List.Pairwise`: a plain loop for the kernel -/
def allPairs {α : Type} (r : α → α → Bool) : List α → Bool
  | [] => true
  | a :: l => l.all (r a) && allPairs r l

theorem pairwise_of_allPairs {α : Type} (r : α → α → Bool) :
    ∀ l : List α, allPairs r l = true → l.Pairwise fun a b => r a b = true
  | [], _ => .nil
  | a :: l, h => by
    rw [allPairs, Bool.and_eq_true, List.all_eq_true] at h
    exact .cons h.1 (pairwise_of_allPairs r l h.2)

/-- a number computed from the characters of the name, so that different keys mean different names; the kernel computes
it once per instruction, each literal decoded once, and compares numerals in one step -/
def nameKey (i : Instr) : Nat := ((parts i).flatMap String.toList).foldl (fun a c => a * 256 + c.toNat) 0

theorem names_distinct : Instr.all.Pairwise fun i j => i.str ≠ j.str := by
  have key : allPairs (fun i j => nameKey i != nameKey j) Instr.all = true := by decide +kernel
  refine (pairwise_of_allPairs _ _ key).imp fun h e => ?_
  rw [bne_iff_ne, nameKey, nameKey, ← str_toList, ← str_toList, e] at h
  exact h rfl

theorem find?_key {α β : Type} [DecidableEq β] (f : α → β) :
    ∀ l : List α, (l.Pairwise fun a b => f a ≠ f b) → ∀ a ∈ l,
      (l.map fun x => (f x, x)).find? (fun p => p.1 == f a) = some (f a, a)
  | x :: l, hd, a, ha => by
    rw [List.pairwise_cons] at hd
    rw [List.map_cons, List.find?_cons]
    rcases List.mem_cons.mp ha with rfl | hl
    · simp
    · rw [show (f x == f a) = false from beq_false_of_ne (hd.1 a hl)]
      exact find?_key f l hd.2 a hl

theorem ofName_str (i : Instr) (h : i ∈ Instr.all) : Instr.ofName i.str = i := by
  rw [Instr.ofName, Instr.table, find?_key Instr.str Instr.all names_distinct i h]

theorem known_of_mem (i : Instr) (h : i ∈ Instr.all) : ∀ s, i ≠ .unknown s := by
  have all : Instr.all.all (fun i => match i with | .unknown _ => false | _ => true) = true := by decide +kernel
  rintro s rfl
  exact absurd (List.all_eq_true.mp all _ h) (by simp)

/-- `NOOP` is the only registered name without a dot (`str_dot`) -/
theorem not_isName (s : String) (hN : 'N' ∉ s.toList) (hdot : '.' ∉ s.toList) : Instr.isName s = false := by
  rw [Instr.isName, Instr.table, List.any_map, List.any_eq_false]
  intro i hi
  simp only [Function.comp_apply, beq_iff_eq]
  rintro rfl
  rcases str_dot i (known_of_mem i hi) with rfl | hd
  · exact hN (by decide)
  · exact hdot hd

theorem isName_str (i : Instr) (h : i ∈ Instr.all) : Instr.isName i.str = true := by
  rw [Instr.isName, Instr.table, List.any_map]
  exact List.any_eq_true.mpr ⟨i, h, beq_self_eq_true _⟩

theorem digitsVal_eq (cs : List Char) : digitsVal cs = Nat.ofDigitChars 10 cs 0 := by
  unfold digitsVal Nat.ofDigitChars
  congr; funext a c; exact congrArg (· + _) (Nat.mul_comm a 10)

theorem parseI32_digits (ds : List Char) (hne : ds ≠ []) (hall : ds.all isDigit = true) :
    (digitsVal ds ≤ 2147483647 → parseI32 ds = some (Int32.ofInt (digitsVal ds))) ∧
    (digitsVal ds ≤ 2147483648 → parseI32 ('-' :: ds) = some (Int32.ofInt (-(digitsVal ds : Int)))) := by
  obtain ⟨c, r, rfl⟩ := List.exists_cons_of_ne_nil hne
  -- the sign match lets a digit through: it is neither `-` nor `+`
  have hc : isDigit c = true := (Bool.and_eq_true_iff.mp hall).1
  have h1 : c ≠ '-' := fun e => absurd (e ▸ hc) (by decide)
  have h2 : c ≠ '+' := fun e => absurd (e ▸ hc) (by decide)
  refine ⟨fun hr => ?_, fun hr => ?_⟩
  · simp [parseI32, h1, h2, hall]; omega
  · simp [parseI32, hall]; omega

theorem showI32_toList (i : Int32) : (showI32 i).toList =
    if 0 ≤ i.toInt then Nat.toDigits 10 i.toInt.toNat else '-' :: Nat.toDigits 10 (-i.toInt).toNat := by
  rw [showI32, Int.toString_eq_repr, Int.repr_eq_if]
  split
  · exact Nat.toList_repr
  · rw [String.toList_append, Nat.toList_repr]; rfl

theorem showI32_chars (i : Int32) : ∀ c ∈ (showI32 i).toList, c.isDigit = true ∨ c = '-' := by
  intro c hc
  rw [showI32_toList] at hc
  split at hc
  · exact .inl (toDigits_isDigit _ c hc)
  · exact (List.mem_cons.mp hc).symm.imp_left (toDigits_isDigit _ c)

/-- **every i32 prints to a token that parses back to itself** (including `i32::MIN`) -/
theorem int_roundtrip (i : Int32) : parseI32 (showI32 i).toList = some i := by
  have hr := Int32.toInt_lt i
  have hl := Int32.le_toInt i
  have parse (n : Nat) := parseI32_digits _ Nat.toDigits_ne_nil (List.all_eq_true.mpr (toDigits_isDigit n))
  simp only [digitsVal_eq, Nat.ofDigitChars_ten_toDigits] at parse
  rw [showI32_toList]
  split
  · rw [(parse _).1 (by omega), Int.toNat_of_nonneg ‹_›, Int32.ofInt_toInt]
  · rw [(parse _).2 (by omega), Int.toNat_of_nonneg (by omega), Int.neg_neg, Int32.ofInt_toInt]

/-- as long as the instruction table does not claim the digits (`hf`) -/
theorem int_leafRT (f : String → Bool) (i : Int32) (hf : f (showI32 i) = false) :
    LeafRT f (.lit (.int i)) :=
  C03.classify_int f _ (isWord_plain (isWord_int i)) hf i (int_roundtrip i)

theorem instr_leafRT (f : String → Bool) (i : Instr) (h : i ∈ Instr.all) (hf : f i.str = true) :
    LeafRT f (.instr i) := by
  show classify f i.str = .atom (.instr i)
  rw [C03.classify_registered f _ (isWord_plain (isWord_str i (known_of_mem i h))) hf, ofName_str i h]

theorem bool_leafRT (f : String → Bool) (b : Bool) (hf : f (showBool b) = false) :
    LeafRT f (.lit (.bool b)) := by
  show classify f (showBool b) = .atom (.lit (.bool b))
  obtain ⟨hw, hi, hfl, -⟩ := showBool_facts b
  simp only [C03.classify_plain f _ (isWord_plain hw), hf, hi, hfl, Bool.false_eq_true, if_false]
  cases b <;> rfl

mutual
def SimpleLeaves (f : String → Bool) : Item → Prop
  | .list xs => SimpleLeavesL f xs
  | .lit v => match v with
    | .int i => f (showI32 i) = false
    | .bool b => f (showBool b) = false
    | _ => False
  | .instr i => i ∈ Instr.all ∧ f i.str = true
  | .ident _ => False
def SimpleLeavesL (f : String → Bool) : List Item → Prop
  | [] => True
  | t :: ts => SimpleLeaves f t ∧ SimpleLeavesL f ts
end

mutual
theorem simple_leaves (f : String → Bool) (t : Item) (h : SimpleLeaves f t) : WordLeaves t ∧ LeafRT f t := by
  cases t with
  | list xs => exact simple_leavesL f xs h
  | lit v =>
    cases v with
    | int i => exact ⟨wsFree_int i, int_leafRT f i h⟩
    | bool b => exact ⟨wsFree_bool b, bool_leafRT f b h⟩
    | _ => exact h.elim
  | instr i => exact ⟨wsFree_instr i (known_of_mem i h.1), instr_leafRT f i h.1 h.2⟩
  | ident n => exact h.elim
theorem simple_leavesL (f : String → Bool) (ts : List Item) (h : SimpleLeavesL f ts) :
    WordLeavesL ts ∧ LeafRTL f ts := by
  cases ts with
  | nil => exact ⟨trivial, trivial⟩
  | cons t ts =>
    have ⟨w, r⟩ := simple_leaves f t h.1
    have ⟨ws, rs⟩ := simple_leavesL f ts h.2
    exact ⟨⟨w, ws⟩, r, rs⟩
end

theorem simple_wordL (f : String → Bool) (ts : List Item) (h : SimpleLeavesL f ts) : WordLeavesL ts :=
  (simple_leavesL f ts h).1

theorem simple_rtL (f : String → Bool) (ts : List Item) (h : SimpleLeavesL f ts) : LeafRTL f ts :=
  (simple_leavesL f ts h).2

/-- **C11 on strings, without any hypothesis about printing**: a tree of any shape and size whose
leaves are i32 values (all of them, `i32::MIN` included), booleans and registered instructions prints
to a string that parses back to exactly that tree -/
theorem parse_print_simple (f : String → Bool) (t : Item) (h : SimpleLeaves f t) :
    parseProgram f [] t.show = [t] :=
  have ⟨hw, hl⟩ := simple_leaves f t h
  parse_print_string f t hw hl

theorem isName_int (i : Int32) : Instr.isName (showI32 i) = false :=
  not_isName _ (fun h => (showI32_chars i _ h).elim (by decide) (by decide))
    (fun h => (showI32_chars i _ h).elim (by decide) (by decide))

mutual
def RegLeaves : Item → Prop
  | .list xs => RegLeavesL xs
  | .lit v => match v with
    | .int _ => True
    | .bool _ => True
    | _ => False
  | .instr i => i ∈ Instr.all
  | .ident _ => False
def RegLeavesL : List Item → Prop
  | [] => True
  | t :: ts => RegLeaves t ∧ RegLeavesL ts
end

mutual
theorem reg_simple (t : Item) (h : RegLeaves t) : SimpleLeaves Instr.isName t := by
  cases t with
  | list xs => exact reg_simpleL xs h
  | lit v =>
    cases v with
    | int i => exact isName_int i
    | bool b => have ⟨_, _, _, hN, hdot⟩ := showBool_facts b; exact not_isName _ hN hdot
    | _ => exact h.elim
  | instr i => exact ⟨h, isName_str i h⟩
  | ident n => exact h.elim
theorem reg_simpleL (ts : List Item) (h : RegLeavesL ts) : SimpleLeavesL Instr.isName ts := by
  cases ts with
  | nil => trivial
  | cons t ts => exact ⟨reg_simple t h.1, reg_simpleL ts h.2⟩
end

/-- **C11 for the parser's own instruction table, no hypotheses**: every tree — any nesting, any
size — of i32 values, booleans and registered instructions satisfies `parse (print t) = [t]` on strings -/
theorem parse_print_registry (t : Item) (h : RegLeaves t) :
    parseProgram Instr.isName [] t.show = [t] :=
  parse_print_simple Instr.isName t (reg_simple t h)

/-- non-vacuity: a concrete nested tree meets both hypotheses of `parse_print_string` -/
example : parseProgram (fun _ => false) []
    (Item.list [.lit (.int (-7)), .list [.lit (.bool true), .list []], .ident "foo"]).show
    = [Item.list [.lit (.int (-7)), .list [.lit (.bool true), .list []], .ident "foo"]] := by
  apply parse_print_string
  · simp only [WordLeaves, WordLeavesL]
    exact ⟨wsFree_int _, ⟨wsFree_bool _, trivial, trivial⟩, by decide, trivial⟩
  · simp only [LeafRT, LeafRTL]
    exact ⟨rfl, ⟨rfl, trivial, trivial⟩, rfl, trivial⟩

end Pushr.C11
