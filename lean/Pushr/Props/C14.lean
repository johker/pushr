import Pushr.Conc
import Pushr.Full
import Pushr.Props.C02
/-! # C14 — execution is deterministic and interpreter instances are mutually isolated -/
namespace Pushr.C14
open Pushr Pushr.Conc

/-- the instructions whose outcome may depend on the hidden environment: the RAND family (random
oracle) and GRAPH.NODE*ADD (process-wide node counter) -/
def usesEnv : Instr → Bool
  | .boolean .rand | .integer .rand | .float .rand | .name .rand | .name .randbound | .code .rand => true
  | .vec _ .rand => true
  | .graph .nodeAdd => true
  | _ => false

/-- the visible part of a state (everything but the hidden environment fields) -/
def vis (s : State) : State := { s with rng := 0, nextId := 0 }

theorem sem_oracle_indep (ρ₁ ρ₂ : Oracle) (i : Instr) (h : usesEnv i = false) (s : State) :
    semFull ρ₁ i s = semFull ρ₂ i s := by
  -- the RAND members go by `h`; the defining equation of every other member does not mention the oracle
  -- (`rfl` is never tried on a RAND member: there it fails only after unfolding the generators)
  cases i with
  | boolean o | integer o | float o | code o => cases o with | rand => cases h | _ => rfl
  | name o => cases o with | rand | randbound => cases h | _ => rfl
  | vec t o => cases o with | rand => cases h | _ => cases t <;> rfl
  | _ => rfl

theorem step_oracle_indep (ρ₁ ρ₂ : Oracle) (s : State)
    (h : ∀ i e, s.exec = .instr i :: e → usesEnv i = false) :
    step fullExt ρ₁ s = step fullExt ρ₂ s := by
  unfold step
  cases hs : s.exec with
  | nil => rfl
  | cons x e =>
    cases x with
    | instr i => exact congrArg (Prod.mk false) (sem_oracle_indep ρ₁ ρ₂ i (h i e hs) _)
    | _ => rfl

/-- a run in which no executed instruction uses the environment reaches the same state whatever the
oracle is: the same program on the same initial state always produces the same final state -/
theorem stepN_oracle_indep (ρ₁ ρ₂ : Oracle) (n : Nat) (s : State)
    (h : ∀ k, k < n → ∀ i e, (stepN fullExt ρ₁ k s).exec = .instr i :: e → usesEnv i = false) :
    stepN fullExt ρ₁ n s = stepN fullExt ρ₂ n s := by
  induction n generalizing s with
  | zero => rfl
  | succ n ih =>
    rw [stepN, stepN, ← step_oracle_indep ρ₁ ρ₂ s (h 0 (Nat.succ_pos n))]
    exact ih _ fun k hk => h (k + 1) (Nat.succ_lt_succ hk)

theorem sysStep_other (X : Ext) (ρ : Nat → Oracle) (sys : Sys) (i j : Nat) (h : i ≠ j) :
    (sysStep X ρ sys i)[j]? = sys[j]? := by
  unfold sysStep
  cases sys[i]? with
  | none => rfl
  | some s => rw [List.getElem?_set_ne h]

theorem sysStep_self (X : Ext) (ρ : Nat → Oracle) (sys : Sys) (i : Nat) (s : State) (h : sys[i]? = some s) :
    (sysStep X ρ sys i)[i]? = some (step X (ρ i) s).2 := by
  unfold sysStep
  rw [h]
  simp only
  rw [List.getElem?_set_self (List.getElem?_eq_some_iff.mp h).1]

/-- **for every schedule**: the state of interpreter `j` afterwards is its own solo run, with as many
steps as the schedule gave it — whatever the other interpreters did in between -/
theorem sched_isolation (X : Ext) (ρ : Nat → Oracle) (sched : List Nat) (sys : Sys) (j : Nat) (s : State)
    (h : sys[j]? = some s) :
    (runSchedule X ρ sys sched)[j]? = some (stepN X (ρ j) (sched.count j) s) := by
  unfold runSchedule
  induction sched generalizing sys s with
  | nil => exact h
  | cons i rest ih =>
    rw [List.foldl_cons]
    by_cases hij : i = j
    · subst hij
      rw [ih _ _ (sysStep_self X ρ sys i s h), List.count_cons_self]; rfl
    · rw [ih _ _ ((sysStep_other X ρ sys i j hij).trans h), List.count_cons_of_ne hij]

theorem allocate_ids (c : Nat) (sched : List Nat) :
    (allocate c sched).map (·.2) = List.range' c sched.length := by
  induction sched generalizing c with
  | nil => rfl
  | cons t ts ih => simp [allocate, fetchAdd, ih, List.range'_succ]

/-- for every interleaving of concurrent node creation the ids are pairwise distinct -/
theorem ids_distinct (c : Nat) (sched : List Nat) : ((allocate c sched).map (·.2)).Nodup := by
  rw [allocate_ids]; exact List.nodup_range'

theorem cliLoop_eq_stepN (X : Ext) (ρ : Oracle) (fuel m : Nat) (s : State) (hm : m ≤ fuel)
    (hp : ∀ i, i < m → (stepN X ρ i s).exec ≠ []) (he : (stepN X ρ m s).exec = []) :
    cliLoop X ρ fuel s = stepN X ρ m s := by
  induction m generalizing fuel s with
  | zero =>
    cases fuel with
    | zero => rfl
    | succ fuel => rw [cliLoop, if_pos ((C02.step_done_iff X ρ s).mpr he)]; rfl
  | succ m ih =>
    obtain ⟨fuel, rfl⟩ := Nat.exists_eq_add_one_of_ne_zero (Nat.ne_zero_of_lt hm)
    rw [cliLoop, if_neg (mt (C02.step_done_iff X ρ s).mp (hp 0 (Nat.zero_lt_succ m)))]
    exact ih fuel _ (Nat.le_of_succ_le_succ hm) (fun i hi => hp (i + 1) (Nat.succ_lt_succ hi)) he

theorem cli_eq_runLoop (X : Ext) (ρ : Oracle) (timeout : Nat → Bool) (fuel k : Nat) (s : State)
    (h : (runLoop X ρ timeout fuel k s).1 = .noErrors) :
    cliLoop X ρ fuel s = (runLoop X ρ timeout fuel k s).2.2 := by
  obtain ⟨m, hm, -, hs', hp, hs⟩ := C02.runLoop_trace X ρ timeout fuel k s rfl
  rw [h] at hs
  rw [hs']
  exact cliLoop_eq_stepN X ρ fuel m s hm (fun i hi => (hp i hi).2.2.1) (hs' ▸ hs.2.2)

/-- a program that terminates within the limits: the CLI loop (parse, copy to CODE, step until done)
ends in exactly the state `run` returns -/
theorem cli_eq_lib (X : Ext) (ρ : Oracle) (timeout : Nat → Bool) (s : State)
    (h : (run X ρ timeout s).1 = .noErrors) :
    cliLoop X ρ ((s.cfg.evalPushLimit.toInt + 2).toNat + 1) (copyToCode s) = (run X ρ timeout s).2.2 :=
  cli_eq_runLoop X ρ timeout _ 0 _ h

/-! non-vacuity: four requests from three workers get four consecutive ids, from 7 on -/
example : ((allocate 7 [0, 1, 0, 2]).map (·.2)) = [7, 8, 9, 10] := by decide

end Pushr.C14
