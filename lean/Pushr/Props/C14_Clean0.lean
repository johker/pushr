import Pushr.Props.C14
import Pushr.Props.C08
/-! # C14 (supplement, part 1) — a syntactic invariant: the tree functions never invent an instruction -/
namespace Pushr.C14
open Pushr

mutual
def okItem (P : Instr → Bool) : Item → Bool
  | .list xs => okItems P xs
  | .instr i => P i
  | .lit _ => true
  | .ident _ => true
def okItems (P : Instr → Bool) : List Item → Bool
  | [] => true
  | x :: xs => okItem P x && okItems P xs
end

variable (P : Instr → Bool)

theorem okItems_eq_all (l : List Item) : okItems P l = l.all (okItem P) := by
  induction l with
  | nil => simp [okItems]
  | cons a t ih => simp [okItems, ih]

theorem okItems_append (a b : List Item) : okItems P (a ++ b) = (okItems P a && okItems P b) := by
  simp [okItems_eq_all]

theorem okItems_mem (l : List Item) (h : okItems P l = true) (x : Item) (hx : x ∈ l) : okItem P x = true := by
  rw [okItems_eq_all, List.all_eq_true] at h; exact h x hx

theorem okItems_of_forall (l : List Item) (h : ∀ x ∈ l, okItem P x = true) : okItems P l = true := by
  rw [okItems_eq_all, List.all_eq_true]; exact h

theorem okItems_sub (a b : List Item) (h : ∀ x ∈ a, x ∈ b) (hb : okItems P b = true) : okItems P a = true :=
  okItems_of_forall P a fun x hx => okItems_mem P b hb x (h x hx)

theorem okItems_reverse (l : List Item) : okItems P l.reverse = okItems P l := by
  simp only [okItems_eq_all, List.all_reverse]

theorem okItems_set {l : List Item} {k : Nat} {x : Item} (h : okItems P l = true) (hx : okItem P x = true) :
    okItems P (l.set k x) = true :=
  okItems_of_forall P _ fun y hy => (List.mem_or_eq_of_mem_set hy).elim (okItems_mem P l h y) (· ▸ hx)

theorem okItem_of_mem_points {t q : Item} (h : okItem P t = true) (hq : q ∈ Item.points t) : okItem P q = true :=
  C08.forall_mem_points (Q := (okItem P · = true)) (okItems_mem P) t h q hq

theorem trav_ok (t : Item) (d : Nat) (r : Item) (h : okItem P t = true) (hr : Item.trav t d = .ok r) :
    okItem P r = true := okItem_of_mem_points P h (C08.mem_points_of_trav hr)
theorem travL_ok (xs : List Item) (d : Nat) (r : Item) (h : okItems P xs = true) (hr : Item.travL xs d = .ok r) :
    okItem P r = true := by
  cases d with
  | zero => cases xs <;> cases hr
  | succ d => exact trav_ok P (.list xs) (d + 1) r h (by rw [Item.trav]; exact hr)

theorem container_ok (t p : Item) (c : Item) (h : okItem P t = true) (hr : Item.container t p = .ok c) :
    okItem P c = true := okItem_of_mem_points P h (C08.container_spec t p c hr).1
theorem containerL_ok (xs : List Item) (p parent c : Item) (h : okItems P xs = true) (hp : okItem P parent = true)
    (hr : Item.containerL xs p parent = .ok c) : okItem P c = true := by
  obtain ⟨x, hx, hc | ⟨_, rfl⟩⟩ := C08.exists_of_containerL hr
  · exact container_ok P x p c (okItems_mem P xs h x hx) hc
  · exact hp

theorem replAt_okItems {old x : Item} {d : Nat} {xs xs' : List Item} (h : C08.ReplAt old x d xs xs')
    (hx : okItem P x = true) : okItems P xs = true → okItems P xs' = true := by
  induction h <;> simp_all [C14.okItems, okItem]

theorem insL_ok (cs : List Item) (x : Item) (d : Nat) (cs' : List Item) (h : okItems P cs = true)
    (hx : okItem P x = true) (hr : Item.insL cs x d = .ok cs') : okItems P cs' = true := by
  obtain ⟨old, hrep⟩ := C08.replAt_of_insL hr
  exact replAt_okItems P hrep hx h
theorem ins_ok (t x : Item) (d : Nat) (t' : Item) (h : okItem P t = true) (hx : okItem P x = true)
    (hr : Item.ins t x d = .ok t') : okItem P t' = true := by
  obtain ⟨old, ys, ys', rfl, rfl, hrep⟩ := C08.replAt_of_ins hr
  exact replAt_okItems P hrep hx h

theorem okItems_substL (xs : List Item) (p sub : Item) (h : ∀ x ∈ xs, okItem P (Item.subst x p sub) = true) :
    okItems P (Item.substL xs p sub) = true := by
  rw [Item.substL_eq_map]; exact okItems_of_forall P _ (List.forall_mem_map.mpr h)

theorem subst_ok (t p sub : Item) (h : okItem P t = true) (hs : okItem P sub = true) :
    okItem P (Item.subst t p sub) = true := by
  induction t using Item.induct with
  | list xs ih =>
    unfold Item.subst
    split
    · exact hs
    · exact okItems_substL P xs p sub fun x hx => ih x hx (okItems_mem P xs h x hx)
  | _ => unfold Item.subst; split <;> assumption
theorem substL_ok (xs : List Item) (p sub : Item) (h : okItems P xs = true) (hs : okItem P sub = true) :
    okItems P (Item.substL xs p sub) = true :=
  okItems_substL P xs p sub fun x hx => subst_ok P x p sub (okItems_mem P xs h x hx) hs

theorem consElems_ok (t : Item) (h : okItem P t = true) : okItems P (consElems t) = true := by
  cases t <;> simp_all [consElems, okItem, okItems]

end Pushr.C14
