import Pushr.Props.C10
import Pushr.Props.C13
/-! # C10 (supplement) — the documented guards of the vector RAND instructions

"If the size is < 0 or max < min this acts as a NOOP" (INTVECTOR.RAND), "if size < 0 or the standard deviation < 0 …"
(FLOATVECTOR.RAND), sparsity outside [0, 1] (BOOLVECTOR.RAND): when such a guard fails with every operand present, the
instruction has only consumed its operands — for every oracle. -/
namespace Pushr.C10
open Pushr

theorem intvector_rand_guard (ρ : Oracle) (s : State) (size mx mn : Int32) (il : List Int32)
    (h : s.int = size :: mx :: mn :: il) (hg : size < 0 ∨ mx ≤ mn) :
    PopsOnly s (semFull ρ (.vec .i .rand) s) := by
  have hn : Rand.randIntVec ρ s.rng size mn mx = none := by
    unfold Rand.randIntVec; rcases hg with hg | hg <;> simp [hg]
  simp only [semFull, sem, fullExt, semVec, semVecI, h, hn]
  exact tyLens_pops .int s il (.of_eq [size, mx, mn] h)

/-- the guard in this form includes a NaN sparsity -/
theorem boolvector_rand_guard (ρ : Oracle) (s : State) (n : Int32) (il : List Int32) (sp : Float32) (fl : List Float32)
    (h : s.int = n :: il) (hf : s.float = sp :: fl) (hg : n < 0 ∨ (sp ≥ 0 && sp ≤ 1) = false) :
    PopsOnly s (semFull ρ (.vec .b .rand) s) := by
  have hn : Rand.randBoolVec ρ s.rng n sp = none := C13.randBoolVec_invalid ρ _ n sp hg
  simp only [semFull, sem, fullExt, semVec, semVecB, h, hf, hn]
  exact (tyLens_pops .int s il (.of_eq [n] h)).trans (tyLens_pops .float _ fl (.of_eq [sp] hf))

theorem floatvector_rand_guard (ρ : Oracle) (s : State) (n : Int32) (il : List Int32) (mean sd : Float32)
    (fl : List Float32) (h : s.int = n :: il) (hf : s.float = mean :: sd :: fl)
    (hg : n < 0 ∨ sd < 0 ∨ sd.isFinite = false) : PopsOnly s (semFull ρ (.vec .f .rand) s) := by
  have hn : Rand.randFloatVec ρ s.rng n mean sd = none := (C13.randFloatVec_spec ρ _ n mean sd).2 hg
  simp only [semFull, sem, fullExt, semVec, semVecF, h, hf, hn]
  exact (tyLens_pops .int s il (.of_eq [n] h)).trans (tyLens_pops .float _ fl (.of_eq [mean, sd] hf))

/-- **C10 (RAND guards, one statement).** Whenever a documented guard of a `*VECTOR.RAND` instruction fails, the
operands are consumed and nothing is pushed or created -/
theorem rand_guard_failed_only_pops (ρ : Oracle) (i : Instr) (s : State) (h : randGuardFails i s = true) :
    PopsOnly s (semFull ρ i s) := by
  unfold randGuardFails at h
  split at h
  · split at h
    next size mx mn il hs =>
      refine intvector_rand_guard ρ s size mx mn il hs ?_
      simpa using h
    · cases h
  · split at h
    next n il sp fl hi hf =>
      refine boolvector_rand_guard ρ s n il sp fl hi hf ?_
      simpa only [Bool.or_eq_true, decide_eq_true_eq, Bool.not_eq_true'] using h
    · cases h
  · split at h
    next n il mean sd fl hi hf =>
      refine floatvector_rand_guard ρ s n il mean sd fl hi hf ?_
      simp only [Bool.or_eq_true, decide_eq_true_eq, Bool.not_eq_true'] at h
      exact or_assoc.mp h
    · cases h
  · cases h

end Pushr.C10
