import Pushr.Props.C11
import Pushr.Spec.C15
/-! # C11 (supplement) — finding K07: a name built by NAME.CAT does not survive print → parse

The full statement of C11 speaks of every program built from lists, integers, booleans, NAMES and registered
instruction names. `Props/C11.lean` proves it under the per-leaf hypothesis that a name prints as one word and
classifies back to itself — true of every name the parser can produce. NAME.CAT, however, joins two names with a
blank (asserted by the unit test `name_cat_appends_second_item`), CODE.FROMNAME turns the result into a code item, and
that item prints as two words. The negation is proved here on the witness, which is also reachable: a
four-item program builds it in five steps. -/
namespace Pushr.C11
open Pushr Pushr.Parse

/-- the printed form of the one-name program `al pha` parses back to TWO names -/
theorem k07_cat_name_violates :
    (parseProgram Instr.isName [] (Item.ident "al pha").show).length = 2 := by decide +kernel

/-- the witness is reachable: `( al pha NAME.CAT CODE.FROMNAME )` leaves exactly that name on the CODE stack -/
theorem k07_reachable :
    let s : State := { Pushr.C15.emptyState with
      exec := [.list [.ident "al", .ident "pha", .instr (.name .cat), .instr (.code .fromname)]] }
    ((stepN fullExt (fun _ => 0) 5 s).code.map Item.show) = ["al pha"] ∧
    (stepN fullExt (fun _ => 0) 5 s).code.length = 1 := by decide

end Pushr.C11
