import Pushr.Props.C19_Conserve
import Pushr.Props.C02
/-! # C19 (supplement) — the ADD → GET → execute round trip restores any number of items in their original order -/
namespace Pushr.C19
open Pushr

variable (X : Ext) (ρ : Oracle)

theorem execLits_ints (s : State) (xs : List Int32) :
    execLits s (xs.map Lit.int) = { s with int := xs.reverse ++ s.int } := by
  induction xs generalizing s with
  | nil => simp [execLits]
  | cons x xs ih => simp only [List.map_cons, execLits, pushLit, pushInt, ih]; simp

theorem execLits_bools (s : State) (xs : List Bool) :
    execLits s (xs.map Lit.bool) = { s with bool := xs.reverse ++ s.bool } := by
  induction xs generalizing s with
  | nil => simp [execLits]
  | cons x xs ih => simp only [List.map_cons, execLits, pushLit, pushBool, ih]; simp

theorem execLits_floats (s : State) (xs : List Float32) :
    execLits s (xs.map Lit.float) = { s with float := xs.reverse ++ s.float } := by
  induction xs generalizing s with
  | nil => simp [execLits]
  | cons x xs ih => simp only [List.map_cons, execLits, pushLit, pushFloat, ih]; simp

/-- ids `9 9 … 9`: `k` times the INTEGER stack -/
theorem loadFold_ints (k : Nat) (s : State) (acc : List Item) (xs rest : List Int32) (h : s.int = xs ++ rest)
    (hk : xs.length = k) :
    loadFold (List.replicate k 9) s acc = (acc ++ xs.map (fun x => Item.lit (.int x)), { s with int := rest }) := by
  subst hk
  induction xs generalizing s acc with
  | nil => rw [← show s.int = rest from h, List.map_nil, List.append_nil]; rfl
  | cons x xs ih =>
    have hp : popById s 9 = some (.lit (.int x), { s with int := xs ++ rest }) := by simp [popById, h]
    rw [List.length_cons, List.replicate_succ, loadFold_take _ _ _ _ _ _ hp, ih _ _ rfl, List.map_cons,
      List.append_assoc]
    rfl

/-- **round trip for any number of integers**: the record LIST.ADD builds from the `k` top integers, once copied to
EXEC (LIST.GET) and executed, puts all `k` back on the INTEGER stack in their original order -/
theorem restore_order_ints (xs : List Int32) (E : List Item) (s : State) :
    stepN X ρ (1 + xs.length) { s with exec := .list (xs.map fun x => Item.lit (.int x)).reverse :: E }
      = { s with exec := E, int := xs ++ s.int } := by
  rw [C02.stepN_add]
  have h1 : stepN X ρ 1 { s with exec := .list (xs.map fun x => Item.lit (.int x)).reverse :: E }
      = { s with exec := (xs.reverse.map Lit.int).map Item.lit ++ E } := by
    simp [stepN, step, List.map_reverse]
  rw [h1]
  have h2 := exec_literals X ρ (xs.reverse.map Lit.int) E s
  simp only [List.length_map, List.length_reverse] at h2
  rw [h2, execLits_ints]
  simp

/-- LIST.ADD with the id vector `9 9 … 9` (k entries) builds exactly that record from the k top integers -/
theorem list_add_ints (s : State) (k : Nat) (l : List (List Int32)) (xs rest : List Int32)
    (hv : s.ivec = List.replicate k 9 :: l) (hi : s.int = xs ++ rest) (hk : xs.length = k) :
    semList .add s = { s with ivec := l, int := rest,
                              code := .list (xs.map fun x => Item.lit (.int x)).reverse :: s.code } := by
  rw [list_add_spec s _ l hv, loadFold_ints k { s with ivec := l } [] xs rest hi hk]
  simp [pushCode]

end Pushr.C19
