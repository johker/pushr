import Pushr.Unregistered
import Pushr.Props.C09
/-! # C09 / C01 (supplement) — the two unregistered INTVECTOR instructions: `INTVECTOR.*` follows the README overlap rule;
`INTVECTOR./` is the guarded loop `divOverlapI` (length of the second vector, no result — never a division by zero —
when a zero divisor lies inside the overlap) -/
namespace Pushr.C09
open Pushr

/-- INTVECTOR.* (when registered by the host): the README overlap rule with wrapping multiplication -/
theorem intvec_mul_spec (s : State) (top second : List Int32) (l : List (List Int32)) (off : Int32) (il : List Int32)
    (hv : s.ivec = top :: second :: l) (hi : s.int = off :: il) :
    semIntVecMul s = { s with ivec := overlapSpec (· * ·) second top off.toInt :: l, int := il } := by
  simp [semIntVecMul, elementwise, Lens.ivec, hv, hi, overlap_loop_eq_spec]

/-- INTVECTOR./: with a zero divisor that would be used both vectors are consumed and nothing is pushed; otherwise the
overlap rule with wrapping division, in which no divisor is zero -/
theorem intvec_div_spec (s : State) (top second : List Int32) (l : List (List Int32)) (off : Int32) (il : List Int32)
    (hv : s.ivec = top :: second :: l) (hi : s.int = off :: il) :
    semIntVecDiv s = (match divOverlapI second top off.toInt with
      | some r => { s with ivec := r :: l, int := il }
      | none => { s with ivec := l, int := il }) := by
  simp only [semIntVecDiv, elementwise, Lens.ivec, hv, hi]
  cases divOverlapI second top off.toInt <;> rfl

theorem intvec_div_length (second top r : List Int32) (off : Int) (h : divOverlapI second top off = some r) :
    r.length = second.length := by
  simp only [divOverlapI] at h
  split at h
  · simp at h
  · simp only [Option.some.injEq] at h; subst h; exact overlap_length _ _ _ _

theorem intvec_div_no_zero_divisor (second top r : List Int32) (off : Int) (h : divOverlapI second top off = some r)
    (i : Nat) (t : Int32) (hi : top[i]? = some t) (h0 : 0 ≤ (i : Int) + off)
    (h1 : ((i : Int) + off).toNat < second.length) : t ≠ 0 := by
  simp only [divOverlapI] at h
  split at h
  · simp at h
  · next hb =>
    intro ht
    apply hb
    rw [List.any_eq_true]
    refine ⟨(t, i), ?_, by simp [h0, h1, ht]⟩
    rw [List.mem_zipIdx_iff_getElem?]
    simpa using hi

example : divOverlapI [8, 8, 8] [1, 0] (-1) = none := by decide
example : divOverlapI [8, 8, 8] [0, 2] (-1) = some [4, 8, 8] := by decide

end Pushr.C09
