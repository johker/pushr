import Pushr.Random
import Pushr.Full
import Pushr.Lemmas.I32
import Pushr.Props.C12
/-! # C13 — random value generators respect their documented bounds (for every oracle) -/
namespace Pushr.C13
open Pushr Pushr.Rand

theorem drawInt_range (ρ : Oracle) (pos : Nat) (lo hi : Int) (h : lo < hi) :
    lo ≤ drawInt ρ pos lo hi ∧ drawInt ρ pos lo hi < hi := by
  unfold drawInt
  have hpos : 0 < (hi - lo).toNat := by omega
  have := Nat.mod_lt (ρ pos) hpos
  omega

theorem drawI32_in_range (ρ : Oracle) (pos : Nat) (mn mx : Int32) (h : mn < mx) :
    mn ≤ Int32.ofInt (drawInt ρ pos mn.toInt mx.toInt) ∧ Int32.ofInt (drawInt ρ pos mn.toInt mx.toInt) < mx := by
  have hr := drawInt_range ρ pos mn.toInt mx.toInt (Int32.lt_iff_toInt_lt.mp h)
  rw [Int32.le_iff_toInt_le, Int32.lt_iff_toInt_lt, L.toInt_ofInt_of_between hr.1 (Int.le_of_lt hr.2)]
  exact hr

/-- INTEGER.RAND: a value inside the configured `[min, max)`; nothing when `max <= min` -/
theorem integer_rand_in_range (ρ : Oracle) (s : State) :
    (s.cfg.minRandInt < s.cfg.maxRandInt →
      ∃ x, semInt ρ .rand s = { s with int := x :: s.int, rng := s.rng + 1 } ∧
        s.cfg.minRandInt ≤ x ∧ x < s.cfg.maxRandInt) ∧
    (¬ s.cfg.minRandInt < s.cfg.maxRandInt → semInt ρ .rand s = s) := by
  constructor
  · intro h
    exact ⟨_, by simp [semInt, h, pushInt], drawI32_in_range ρ s.rng _ _ h⟩
  · intro h; simp [semInt, h]

theorem drawsInt_length (ρ : Oracle) (lo hi : Int) (n i : Nat) : (drawsInt ρ lo hi n i).length = n := by
  induction n generalizing i with
  | zero => rfl
  | succ n ih => simp [drawsInt, ih]

theorem drawsInt_range (ρ : Oracle) (mn mx : Int32) (h : mn < mx) (n i : Nat) :
    ∀ x ∈ drawsInt ρ mn.toInt mx.toInt n i, mn ≤ x ∧ x < mx := by
  induction n generalizing i with
  | zero => intro x hx; simp [drawsInt] at hx
  | succ n ih =>
    intro x hx
    simp only [drawsInt, List.mem_cons] at hx
    rcases hx with rfl | hx
    · exact drawI32_in_range ρ i mn mx h
    · exact ih (i + 1) x hx

/-- INTVECTOR.RAND: the requested length, every element in `[min, max)`; invalid parameters give nothing -/
theorem randIntVec_spec (ρ : Oracle) (i : Nat) (size mn mx : Int32) :
    (0 ≤ size.toInt ∧ mn < mx → ∃ v pos, randIntVec ρ i size mn mx = some (v, pos) ∧
        v.length = size.toInt.toNat ∧ ∀ x ∈ v, mn ≤ x ∧ x < mx) ∧
    (size.toInt < 0 ∨ ¬ mn < mx → randIntVec ρ i size mn mx = none) := by
  -- the guard of `randIntVec`, read through `toInt`
  have hg : (size < 0 || mx ≤ mn) = true ↔ size.toInt < 0 ∨ ¬ mn < mx := by
    simp only [Bool.or_eq_true, decide_eq_true_eq, Int32.lt_iff_toInt_lt, Int32.le_iff_toInt_le, Int32.toInt_zero,
      Int.not_lt]
  unfold randIntVec
  constructor
  · rintro ⟨h0, h⟩
    rw [if_neg fun hc => (hg.mp hc).elim (fun h' => by omega) (fun h' => h' h)]
    exact ⟨_, _, rfl, drawsInt_length .., drawsInt_range ρ mn mx h _ _⟩
  · intro h
    rw [if_pos (hg.mpr h)]

theorem flipBits_length (ρ : Oracle) (d : Bool) (k i : Nat) (v : List Bool) :
    (flipBits ρ d k i v).1.length = v.length := by
  fun_induction flipBits ρ d k i v with
  | case1 => rfl
  | case2 k i v ps p _ ih => rw [ih, List.length_set]
  | case3 => rfl

def nonDefault (v : List Bool) (d : Bool) : Nat := (v.filter (· != d)).length

theorem mem_defaultPositions (v : List Bool) (d : Bool) (p : Nat) :
    p ∈ defaultPositions v d ↔ v[p]? = some d := by
  simp only [defaultPositions, List.mem_filter, List.mem_range, beq_iff_eq]
  constructor
  · exact fun h => h.2
  · intro h; exact ⟨(List.getElem?_eq_some_iff.mp h).1, h⟩

theorem nonDefault_set (v : List Bool) (d : Bool) (p : Nat) (h : v[p]? = some d) :
    nonDefault (v.set p (!d)) d = nonDefault v d + 1 := by
  obtain ⟨hp, hd⟩ := List.getElem?_eq_some_iff.mp h
  unfold nonDefault
  rw [← List.countP_eq_length_filter, ← List.countP_eq_length_filter, List.countP_set hp, hd]
  cases d <;> rfl

/-- as long as not every bit has been flipped, a default position exists: the rejection loop of
`random_bool_vector` always has a position it can accept (deadlock-freedom) -/
theorem exists_default (v : List Bool) (d : Bool) (h : nonDefault v d < v.length) :
    ∃ p : Nat, v[p]? = some d := by
  obtain ⟨x, hx, hxd⟩ := List.length_filter_lt_length_iff_exists.mp h
  obtain rfl : x = d := by simpa using hxd
  exact List.mem_iff_getElem?.mp hx

theorem defaultPositions_ne_nil (v : List Bool) (d : Bool) (h : nonDefault v d < v.length) :
    0 < (defaultPositions v d).length := by
  obtain ⟨p, hp⟩ := exists_default v d h
  exact List.length_pos_of_mem ((mem_defaultPositions v d p).mpr hp)

/-- `h` is the loop invariant: the flips still to do never exceed the positions still at the default, so
`defaultPositions` is never empty -/
theorem flipBits_count (ρ : Oracle) (d : Bool) (k i : Nat) (v : List Bool)
    (h : nonDefault v d + k ≤ v.length) :
    nonDefault (flipBits ρ d k i v).1 d = nonDefault v d + k := by
  fun_induction flipBits ρ d k i v with
  | case1 => rfl
  | case2 k i v ps p hp ih =>
    -- the accepted draw `p` is a default position: flipping it raises the count by one
    have hcount := nonDefault_set v d p ((mem_defaultPositions v d p).mp (List.mem_of_getElem? hp))
    rw [ih (by rw [hcount, List.length_set]; omega), hcount]; omega
  | case3 k i v ps hn =>
    have := defaultPositions_ne_nil v d (by omega)
    rw [List.getElem?_eq_getElem (Nat.mod_lt _ this)] at hn
    cases hn

theorem randBoolVec_some {ρ : Oracle} {i : Nat} {size : Int32} {sp : Float32} {v : List Bool} {pos : Nat}
    (h : randBoolVec ρ i size sp = some (v, pos)) :
    v = (flipBits ρ (sp > 0.5) (activeBits size sp) i (List.replicate size.toInt.toNat (sp > 0.5))).1 := by
  unfold randBoolVec at h
  split at h
  · cases h
  · exact (congrArg Prod.fst (Option.some.inj h)).symm

/-- BOOLVECTOR.RAND yields the requested length; that invalid parameters (negative size, sparsity outside
[0, 1] or NaN) yield nothing is `randBoolVec_invalid` -/
theorem randBoolVec_length (ρ : Oracle) (i : Nat) (size : Int32) (sp : Float32) (v : List Bool) (pos : Nat)
    (h : randBoolVec ρ i size sp = some (v, pos)) : v.length = size.toInt.toNat := by
  rw [randBoolVec_some h, flipBits_length, List.length_replicate]

/-- the number of non-default bits is exactly the rounded share `activeBits`, provided it does not
exceed the length (it is at most half of it by construction of the rounding) -/
theorem randBoolVec_count (ρ : Oracle) (i : Nat) (size : Int32) (sp : Float32) (v : List Bool) (pos : Nat)
    (h : randBoolVec ρ i size sp = some (v, pos)) (hk : activeBits size sp ≤ size.toInt.toNat) :
    nonDefault v (sp > 0.5) = activeBits size sp := by
  have h0 : nonDefault (List.replicate size.toInt.toNat (decide (sp > 0.5))) (decide (sp > 0.5)) = 0 := by
    simp [nonDefault]
  rw [randBoolVec_some h, flipBits_count _ _ _ _ _ (by rw [h0]; simpa using hk), h0, Nat.zero_add]

theorem randBoolVec_invalid (ρ : Oracle) (i : Nat) (size : Int32) (sp : Float32)
    (h : size < 0 ∨ (sp ≥ 0 && sp ≤ 1) = false) : randBoolVec ρ i size sp = none := by
  unfold randBoolVec
  rcases h with h | h <;> simp [h]

theorem flip_every_position (d : Bool) (n j : Nat) (hj : j < n) :
    ∃ ρ : Oracle, (flipBits ρ d 1 0 (List.replicate n d)).1[j]? = some (!d) := by
  refine ⟨fun _ => j, ?_⟩
  have hdp : defaultPositions (List.replicate n d) d = List.range n := by
    simp only [defaultPositions, List.length_replicate]
    apply List.filter_eq_self.mpr
    intro p hp
    simp [List.mem_range.mp hp]
  simp only [flipBits, hdp, List.length_range, Nat.mod_eq_of_lt hj, List.getElem?_range hj]
  simp [hj]

theorem randFloatVec_spec (ρ : Oracle) (i : Nat) (size : Int32) (mean sd : Float32) :
    (∀ v pos, randFloatVec ρ i size mean sd = some (v, pos) → v.length = size.toInt.toNat) ∧
    (size < 0 ∨ sd < 0 ∨ sd.isFinite = false → randFloatVec ρ i size mean sd = none) := by
  constructor
  · intro v pos h
    unfold randFloatVec at h
    split at h
    · cases h
    · cases h; simp
  · intro h
    unfold randFloatVec
    rcases h with h | h | h <;> simp [h]

/-- FLOAT.RAND fires only for `min < max` with a finite span -/
theorem float_rand_guarded (ρ : Oracle) (s : State)
    (h : (s.cfg.minRandFloat < s.cfg.maxRandFloat && (s.cfg.maxRandFloat - s.cfg.minRandFloat).isFinite) = false) :
    semFloat ρ .rand s = s := by
  simp [semFloat, h]

/-- NAME.RANDBOUNDNAME returns a currently bound name whenever one exists -/
theorem randbound_is_bound (ρ : Oracle) (s : State) (h : s.bindings ≠ []) :
    ∃ n v, (semName ρ .randbound s).name = n :: s.name ∧ (n, v) ∈ s.bindings := by
  obtain ⟨v, hv⟩ := C12.boundName_is_bound ρ s h
  exact ⟨boundName ρ s, v, by simp [semName, pushName], hv⟩

end Pushr.C13
