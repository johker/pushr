import Pushr.Props.C07
import Pushr.Full
/-! # C07 (supplement) — aliases: a name bound to a name costs one step per alias and ends at the bound value -/
namespace Pushr.C07
open Pushr

theorem alias_step (X : Ext) (ρ : Oracle) (s : State) (a b : String) (e : List Item)
    (h : s.exec = .ident a :: e) (hq : s.quote = false) (hb : bindLookup a s.bindings = some (.ident b)) :
    (step X ρ s).2 = { s with exec := .ident b :: e } :=
  ident_bound_pushes_exec X ρ s a e _ h hq hb

theorem alias_chain_int (X : Ext) (ρ : Oracle) (s : State) (a b : String) (v : Int32) (e : List Item)
    (h : s.exec = .ident a :: e) (hq : s.quote = false)
    (hab : bindLookup a s.bindings = some (.ident b)) (hbv : bindLookup b s.bindings = some (.lit (.int v))) :
    stepN X ρ 3 s = { s with exec := e, int := v :: s.int } := by
  rw [stepN, alias_step X ρ s a b e h hq hab]
  exact use_bound_literal X ρ _ b e (.int v) rfl hq hbv

/-- a name bound to itself: the step is the identity on the state (that such a run ends is the step limit of C02,
not a property of the step) -/
theorem alias_ring_step (X : Ext) (ρ : Oracle) (s : State) (a : String) (e : List Item)
    (h : s.exec = .ident a :: e) (hq : s.quote = false) (hb : bindLookup a s.bindings = some (.ident a)) :
    (step X ρ s).2 = s := by
  rw [alias_step X ρ s a a e h hq hb, ← h]

end Pushr.C07
