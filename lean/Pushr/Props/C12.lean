import Pushr.Random
import Pushr.Full
import Pushr.Lemmas.Tree
/-! # C12 — random code has the requested size and is built from the given instructions

Every statement quantifies over **all** oracles `ρ` (streams of naturals standing for the PRNG),
which is stronger than any number of draws. -/
namespace Pushr.C12
open Pushr Pushr.Rand

theorem decompose_spec (ρ : Oracle) (i n : Nat) (hn : 1 ≤ n) :
    (decompose ρ i n).1.sum = n ∧ ∀ p ∈ (decompose ρ i n).1, 1 ≤ p ∧ p ≤ n := by
  induction n using Nat.strongRecOn generalizing i with
  | _ n ih =>
    rw [decompose]
    split
    · next h => simp; omega
    · next h =>
      have hr := draw_range ρ i 1 n (by omega)
      have := ih (n - draw ρ i 1 n) (by omega) (i + 1) (by omega)
      simp only [List.sum_cons, List.mem_cons]
      refine ⟨by omega, ?_⟩
      intro p hp
      rcases hp with rfl | hp
      · omega
      · have := this.2 p hp; omega

theorem genLeaf_size (ρ : Oracle) (s : State) (instrs : List Instr) (i : Nat) :
    (genLeaf ρ s instrs i).1.size = 1 := by
  unfold genLeaf
  (repeat' split) <;> rfl

theorem genL_size (g : Nat → Nat → Item × Nat) (ps : List Nat) (i : Nat)
    (hg : ∀ p ∈ ps, ∀ j, (g j p).1.size = p) : Item.sizeL (genL g i ps).1 = ps.sum := by
  induction ps generalizing i with
  | nil => simp [genL, Item.sizeL]
  | cons p ps ih =>
    simp only [genL, Item.sizeL, List.sum_cons]
    rw [hg p (by simp), ih _ (fun q hq j => hg q (by simp [hq]) j)]

/-- **exact-size generation returns an item with exactly `n` points, for every `n ≥ 1` and every oracle** (the fuel
bounds the nesting: a child of a list with `points` points has at most `points - 1`, so `f = points` suffices) -/
theorem genCode_size (ρ : Oracle) (s : State) (instrs : List Instr) :
    ∀ (f points i : Nat), 1 ≤ points → points ≤ f + 1 → (genCode ρ s instrs f i points).1.size = points := by
  intro f
  induction f with
  | zero => intro points i h1 h2; simp only [genCode]; rw [genLeaf_size]; omega
  | succ f ih =>
    intro points i h1 h2
    unfold genCode
    split
    · rw [genLeaf_size]; omega
    · next hgt =>
      have hd := decompose_spec ρ i (points - 1) (by omega)
      simp only [Item.size, Item.sizeL_reverse]
      rw [genL_size (genCode ρ s instrs f) _ _
        (fun p hp j => ih p j (hd.2 p hp).1 (by have := (hd.2 p hp).2; omega)), hd.1]
      omega

/-- generation with an upper bound: between 1 and bound-1 points for every bound ≥ 2 -/
theorem randomCode_bounds (ρ : Oracle) (s : State) (instrs : List Instr) (m : Nat) (hm : 2 ≤ m) :
    ∃ c pos, randomCode ρ s instrs m = some (c, pos) ∧ 1 ≤ c.size ∧ c.size ≤ m - 1 := by
  have hr := draw_range ρ s.rng 1 m (by omega)
  refine ⟨_, _, if_pos (by omega : m > 1), ?_⟩
  rw [genCode_size ρ s instrs _ _ _ hr.1 (by omega)]
  omega

theorem randomCode_small (ρ : Oracle) (s : State) (instrs : List Instr) (m : Nat) (hm : m < 2) :
    randomCode ρ s instrs m = none := by
  simp [randomCode, show ¬ m > 1 by omega]

def LeafOk (s : State) (instrs : List Instr) : Item → Prop
  | .instr i => i ∈ instrs ∨ (instrs = [] ∧ i = .noop)
  | .lit (.bool _) => True
  | .lit (.int _) => True
  | .lit (.float _) => True       -- in [0,1): a property of the float primitive, checked by correspondence
  | .ident _ => True
  | _ => False

/-- every generated leaf is an instruction from the supplied list (NOOP when that list is empty),
TRUE/FALSE, an integer, a float or a name -/
theorem genLeaf_kind (ρ : Oracle) (s : State) (instrs : List Instr) (i : Nat) :
    LeafOk s instrs (genLeaf ρ s instrs i).1 := by
  unfold genLeaf
  split
  · trivial
  · trivial
  · split
    · next h => exact .inl (List.mem_of_getElem? h)
    · next h =>
      refine .inr ⟨List.eq_nil_of_length_eq_zero (Nat.eq_zero_of_not_pos fun hpos => ?_), rfl⟩
      exact absurd (List.getElem?_eq_none_iff.mp h) (Nat.not_le.mpr (Nat.mod_lt _ hpos))
  · trivial
  · split <;> trivial

/-- a name leaf is a currently bound name unless a new one is drawn -/
theorem boundName_is_bound (ρ : Oracle) (s : State) (h : s.bindings ≠ []) :
    ∃ v, (boundName ρ s, v) ∈ s.bindings := by
  unfold boundName
  have hlt : ρ s.rng % s.bindings.length < s.bindings.length :=
    Nat.mod_lt _ (List.length_pos_iff.mpr h)
  rw [List.getElem?_eq_getElem hlt]
  exact ⟨_, List.getElem_mem hlt⟩

/-- CODE.RAND never produces more points than `|n|` nor than max-points-in-random-expressions -/
theorem code_rand_bound (ρ : Oracle) (s : State) (n : Int32) (il : List Int32) (h : s.int = n :: il) :
    let limit := min (i32Abs n).toInt.natAbs (i32Abs s.cfg.maxPointsRand).toInt.natAbs
    (limit < 2 → semFull ρ (.code .rand) s = { s with int := il }) ∧
    (2 ≤ limit → ∃ c pos, semFull ρ (.code .rand) s = { s with int := il, code := c :: s.code, rng := pos }
        ∧ 1 ≤ c.size ∧ c.size ≤ limit - 1) := by
  intro limit
  constructor
  · intro hl
    simp only [semFull, sem, semCode, h, fullExt]
    rw [randomCode_small ρ _ _ _ hl]
  · intro hl
    obtain ⟨c, pos, hc, h1, h2⟩ := randomCode_bounds ρ { s with int := il } Instr.all limit hl
    refine ⟨c, pos, ?_, h1, h2⟩
    simp only [semFull, sem, semCode, h, fullExt]
    rw [hc]; rfl

/-! non-vacuity: an arbitrary oracle, size 10 -/
example : ∀ ρ : Oracle, (genCode ρ default [] 10 0 10).1.size = 10 :=
  fun ρ => genCode_size ρ _ _ 10 10 0 (by omega) (by omega)

end Pushr.C12
