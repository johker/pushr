import Pushr.Props.C06
/-! # C06 (supplement): an INTVECTOR.LOOP body that LOOKS at the INTVECTOR stack

`intvector_loop_runs` quantifies over every body that meets the contract `BodyOkV`. This instance shows that the
contract is met by a body that inspects the INTVECTOR stack (INTVECTOR.STACKDEPTH): while the body runs the iterated
vector is not on that stack, so every iteration sees the depth the stack had below the vector. (This is the body the
`loop ivec depth` cases of the harness run.) -/
open Pushr
namespace Pushr.C06

def depthBody : Item := .instr (.stk .ivec .depth)

def depthF (x : Int32) (d : State) : State := { d with int := lenI32 d.ivec.length :: x :: d.int }

theorem depthBody_ok (ρ : Oracle) : BodyOkV fullExt ρ depthBody depthF := by
  intro E x d
  refine ⟨1, ?_⟩
  simp [stepN, step, depthBody, depthF, sem, semStk, stkOp, Lens.ivec, pushInt]

theorem intvector_loop_depth (ρ : Oracle) (v : List Int32) (V : List (List Int32)) (E : List Item) (d : State)
    (hd : d.ivec = V) :
    ∃ k, stepN fullExt ρ k { d with exec := vloopI :: depthBody :: E, ivec := v :: V }
      = { (v.foldl (fun d x => depthF x d) d) with exec := E } :=
  intvector_loop_runs ρ depthBody depthF (depthBody_ok ρ) (fun _ _ => rfl) v V E d hd

end Pushr.C06
