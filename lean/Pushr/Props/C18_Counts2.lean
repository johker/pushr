import Pushr.Props.C18_Counts
/-! # C18 (supplement) — removing an edge lowers the edge count by exactly one when the ordered pair had one -/
namespace Pushr.C18
open Pushr Pushr.Graph

theorem filter_origin_length (l : List Edge) (o : Nat) (hn : (l.map (·.origin)).Nodup) :
    (l.filter (·.origin != o)).length + (if l.any (·.origin == o) then 1 else 0) = l.length := by
  -- the edges from `o` are counted by `count o` on the origins, which is 1 or 0 as `o` occurs or not
  have hc := hn.count (a := o)
  rw [List.count_eq_countP, List.countP_map] at hc
  have hneg : l.countP (fun e => decide ¬(e.origin != o) = true) = l.countP ((· == o) ∘ (·.origin)) :=
    List.countP_congr fun e _ => by simp
  have hany : (l.any (·.origin == o) = true) ↔ o ∈ l.map (·.origin) := by simp
  rw [List.length_eq_countP_add_countP (fun e => e.origin != o) (l := l), ← List.countP_eq_length_filter, hneg, hc]
  simp only [hany]

theorem edgeSize_removeEdge (g : Graph) (hw : WF g) (o d : Nat) :
    (g.removeEdge o d).edgeSize + (if (g.getWeight o d).isSome then 1 else 0) = g.edgeSize := by
  rw [removeEdge_eq, getWeight_eq, wIn_isSome]
  split
  · have h1 := edgeSize_setIn g hw.edges d ((inList g d).filter (·.origin != o))
    have h2 := filter_origin_length (inList g d) o (inv_inList hw.inv d).2
    omega
  · next hs => rw [inList, Option.not_isSome_iff_eq_none.mp hs]; rfl

end Pushr.C18
