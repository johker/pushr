import Pushr.Props.C06
import Pushr.Props.C07
/-! # C06 (supplement) — code reached through a name runs like code written in place -/
namespace Pushr.C06
open Pushr

/-- a name bound to a list: after two steps (the name step pushes the list, the list step unpacks it) EXEC is what
the list written in place produces in one step (`step_list`) -/
theorem bound_list_unpacked (X : Ext) (ρ : Oracle) (s : State) (n : String) (xs e : List Item)
    (h : s.exec = .ident n :: e) (hq : s.quote = false) (hb : bindLookup n s.bindings = some (.list xs)) :
    stepN X ρ 2 s = { s with exec := xs ++ e } := by
  rw [stepN, C07.ident_bound_pushes_exec X ρ s n e _ h hq hb]
  exact congrArg (·.2) (step_list X ρ { s with exec := .list xs :: e } xs e rfl)

theorem bound_item_pushed (X : Ext) (ρ : Oracle) (s : State) (n : String) (v : Item) (e : List Item)
    (h : s.exec = .ident n :: e) (hq : s.quote = false) (hb : bindLookup n s.bindings = some v) :
    stepN X ρ 1 s = { s with exec := v :: e } :=
  C07.ident_bound_pushes_exec X ρ s n e v h hq hb

end Pushr.C06
