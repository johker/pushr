import Pushr.Props.C15
import Pushr.Props.C09
import Pushr.Lemmas.Load
/-! # C15 (supplement) — the growth bound for the EXEC, INPUT/OUTPUT, DEFINE, LIST and vector families -/
namespace Pushr.C15
open Pushr Pushr.C09

open scoped Peel

/-- EXEC combinators: at most one copy of what EXEC already holds, plus the re-arming code -/
theorem exec_growth (o : ExecOp) (s : State) : weight (semExec o s) ≤ 2 * weight s + 4 := by
  cases o <;> simp only [semExec]
  case cmd =>
    split
    · omega
    · next n il hn =>
      have h1 := weight_popInt s n il hn
      have h2 := weighted_name.set_le { s with int := il } _ 0 (sumMap_sublist _ (List.drop_sublist (n.toInt.toNat + 1) s.name))
      simp only [Lens.name] at h2
      (repeat' split) <;> omega
  case loop => (repeat' split) <;> simp +arith [*, R, Item.size, instr]
  all_goals (repeat' split) <;> simp +arith [*, Item.size, instr]

/-- INPUT / OUTPUT instructions: a copy of one queued message, or one element -/
theorem io_growth (o : IoOp) (s : State) : weight (semIo o s) ≤ 2 * weight s + 4 := by
  cases o <;> simp only [semIo, Buf.popOldest, Buf.oldest, Buf.flush, Buf.push]
  case read => cases hi : s.input.items <;> simp [*, R] <;> omega
  all_goals (repeat' split) <;> simp +arith [*, R, sumMap_append]

theorem bindInsert_weight (k : String) (v : Item) (bs : List (String × Item)) :
    sumMap (fun p : String × Item => 1 + p.1.length + p.2.size) (bindInsert k v bs)
      ≤ sumMap (fun p : String × Item => 1 + p.1.length + p.2.size) bs + (1 + k.length + v.size) := by
  obtain ⟨bs', hs, hp⟩ := C07.bindInsert_perm k v bs
  have := sumMap_sublist (fun p : String × Item => 1 + p.1.length + p.2.size) hs
  rw [sumMap_perm _ hp, sumMap_cons]; simp only; omega

theorem popItem_weight {t : Ty} {s s' : State} {it : Item} (h : popItem t s = some (it, s')) :
    weight s' + it.size ≤ weight s := by
  cases popItem_popTop h <;> simp [*, Item.size] <;> omega

/-- the eight DEFINE instructions move a value from its stack into the binding table -/
theorem define_growth (t : Ty) (s : State) : weight (semDefine t s) ≤ weight s + 2 := by
  refine semDefine_induct (Q := (weight · ≤ weight s + 2)) t s (Nat.le_add_right _ _) (fun n ns hn => ?_)
    fun n ns v s2 hn hv => ?_
  · simp +arith [*]
  · have h1 := popItem_weight hv
    have h2 := bindInsert_weight n v s2.bindings
    simp [*, R] at h1 h2 ⊢; omega

theorem loadFold_weight (ids : List Int32) (s : State) (acc : List Item) :
    weight (loadFold ids s acc).2 + Item.sizeL (loadFold ids s acc).1 ≤ weight s + Item.sizeL acc :=
  loadFold_induct (P := fun a t => weight t + Item.sizeL a ≤ weight s + Item.sizeL acc) ids (Nat.le_refl _)
    fun ih hp => by
      have := popItem_weight hp
      simp only [sizeL_eq_sumMap, sumMap_append, sumMap_cons, sumMap_nil] at ih ⊢; omega

theorem loadItems_weight (s s' : State) (r : Item) (h : loadItems s = some (r, s')) : weight s' + r.size ≤ weight s + 1 := by
  obtain ⟨ids, l, hv, rfl, rfl⟩ := loadItems_some h
  have h1 := loadFold_weight ids { s with ivec := l } []
  have h2 : weight { s with ivec := l } + (1 + ids.length) = weight s := by simp [hv]; omega
  simp only [Item.size, sizeL_eq_sumMap, sumMap_perm _ (List.reverse_perm _), sumMap_nil] at h1 ⊢; omega

/-- LIST.ADD / GET / SET / REMOVE / BVAL / IVAL / FVAL: a record is built from items that leave their stacks, or
one record is copied -/
theorem list_growth (o : ListOp) (s : State) (h : o ≠ .nbIds ∧ o ≠ .nbBvals ∧ o ≠ .nbIvals ∧ o ≠ .nbFvals) :
    weight (semList o s) ≤ 2 * weight s + 4 := by
  cases o <;> simp only [semList]
  case nbIds | nbBvals | nbIvals | nbFvals => simp at h
  case add =>
    split
    · next r s' hl => have := loadItems_weight s s' r hl; simp at this ⊢; omega
    · omega
  case remove =>
    split
    · omega
    · next i il hi =>
      have := weight_popInt s i il hi
      exact Nat.le_trans (weighted_code.set_le { s with int := il } _ 0 (sumMap_sublist _ (List.eraseIdx_sublist _ _)))
        (by omega)
  case get =>
    (repeat' split) <;> try simp +arith [*]
    -- left by `simp`: the index is there and `hx` finds a record at it, which is copied to EXEC
    next il _ _ _ hx =>
      have := sumMap_getElem_le Item.size hx
      have := weighted_code.get_le { s with int := il }
      simp [*, Lens.code] at *; omega
  case set =>
    split
    · omega
    · next i il hi =>
      have := weight_popInt s i il hi
      split
      · omega
      · next r s2 hl =>
        have := loadItems_weight { s with int := il } s2 r hl
        split
        · omega
        · have := weighted_code.set_le s2 _ r.size (sumMap_set_le _ s2.code (clampIdx s2.code.length i) r)
          exact Nat.le_trans this (by omega)
  all_goals (repeat' split) <;> simp +arith [*]

theorem notLoop_length (v : List Bool) (off : Int) : (notLoop v off).length = v.length := by
  simp [notLoop]

theorem sortBool_length (v : List Bool) : (sortBool v).length = v.length := (sortBool_perm v).length_eq
theorem sortI32_length (v : List Int32) : (sortI32 v).length = v.length := (sortI32_perm v).length_eq
theorem sortF32_length (v : List Float32) : (sortF32 v).length = v.length := (sortF32_perm v).length_eq

attribute [local simp] overlap_length notLoop_length vecSetAt_length rotateIn_length sortBool_length sortI32_length
  sortF32_length

/-- BOOLVECTOR instructions other than ONES / ZEROS / RAND (K05): the result is never longer than an operand -/
theorem vecB_growth (br : Oracle → Nat → Int32 → Float32 → Option (List Bool × Nat)) (ρ : Oracle) (o : VecOp) (s : State)
    (h : o ≠ .ones ∧ o ≠ .zeros ∧ o ≠ .rand) : weight (semVecB br ρ o s) ≤ 2 * weight s + 4 := by
  cases o <;> simp only [semVecB, elementwise, vecGet, modTop, Lens.bvec]
  case ones | zeros | rand => simp at h
  all_goals (repeat' split) <;> simp +arith [*]

theorem filterMap_zipIdx_le {α β : Type} (f : α × Nat → Option β) (v : List α) :
    (v.zipIdx.filterMap f).length ≤ v.length := by
  simpa using List.length_filterMap_le f v.zipIdx

/-- INTVECTOR instructions other than ONES / ZEROS / RAND (K05) -/
theorem vecI_growth (ir : Oracle → Nat → Int32 → Int32 → Int32 → Option (List Int32 × Nat)) (ρ : Oracle) (o : VecOp)
    (s : State) (h : o ≠ .ones ∧ o ≠ .zeros ∧ o ≠ .rand) : weight (semVecI ir ρ o s) ≤ 2 * weight s + 4 := by
  cases o <;> simp only [semVecI, elementwise, vecGet, modTop, Lens.ivec]
  case ones | zeros | rand => simp at h
  -- in BOOLINDEX and REMOVE `simp` leaves the branch with every operand, where a filtered list is pushed
  case boolindex =>
    (repeat' split) <;> try simp +arith [*]
    next v _ _ => exact Nat.le_trans (filterMap_zipIdx_le _ v) (by omega)
  case fromint =>
    split
    · omega
    · next n il hi =>
      -- the one instruction that cuts a stack in two: no pop / push form, so `W` is unfolded
      have := List.length_take_le (clampIdx (il.length + 1) n) il
      simp [*, W]; omega
  case remove =>
    (repeat' split) <;> try simp +arith [*]
    next v _ _ _ x _ _ => have := List.length_filter_le (fun y => y != x) v; omega
  -- SET*INSERT tests `isEmpty`: INTVECTOR is opened by hand so that the test computes before the matches are split
  case setInsert =>
    cases hv : s.ivec <;> simp only [hv, List.isEmpty_nil, List.isEmpty_cons, if_true, Bool.false_eq_true, if_false]
    all_goals (repeat' split) <;> simp +arith [*]
  all_goals (repeat' split) <;> simp +arith [*, Item.size]

theorem divOverlap_length {a b r : List Float32} {off : Int} (h : divOverlap a b off = some r) : r.length = a.length := by
  simp only [divOverlap] at h
  split at h
  · cases h
  · cases h; exact overlap_length _ _ _ _

/-- FLOATVECTOR instructions other than ONES / ZEROS / RAND / SINE (K05) -/
theorem vecF_growth (fr : Oracle → Nat → Int32 → Float32 → Float32 → Option (List Float32 × Nat)) (ρ : Oracle)
    (o : VecOp) (s : State) (h : o ≠ .ones ∧ o ≠ .zeros ∧ o ≠ .rand ∧ o ≠ .sine) :
    weight (semVecF fr ρ o s) ≤ 2 * weight s + 4 := by
  cases o <;> simp only [semVecF, elementwise, vecGet, modTop, Lens.fvec]
  case ones | zeros | rand | sine => simp at h
  case div =>
    (repeat' split) <;> try simp +arith [*]
    next hr => have := divOverlap_length hr; omega
  all_goals (repeat' split) <;> simp +arith [*]

/-- the instructions covered in `C15` and here: everything except the operand-sized ones (K05: ONES, ZEROS,
vector RAND, SINE, LIST.NEIGHBOR*, CODE.RAND), NAME.RAND / NAME.RANDBOUNDNAME (text from the `names` crate),
CODE.SUBST (quadratic), CODE.PRINT (characters) and the GRAPH family (`covered3` in `C15_Graph`) -/
def covered2 : Instr → Bool
  | .noop | .unknown _ => true
  | .exec _ | .io _ | .define _ => true
  | .list o => o != .nbIds && o != .nbBvals && o != .nbIvals && o != .nbFvals
  | .vec .f o => o != .ones && o != .zeros && o != .rand && o != .sine
  | .vec _ o => o != .ones && o != .zeros && o != .rand
  | .graph _ => false
  | i => covered i

set_option maxRecDepth 8000 in
example : (Instr.all.filter covered2).length = 242 := by decide

end Pushr.C15
