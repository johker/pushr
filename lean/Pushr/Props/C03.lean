import Pushr.Parser
/-! # C03 — the parser builds exactly the tree the text describes

The parser model works on token lists (`Tok`); `tokenize` and `classify` produce them from the text.
`render` is the token sequence of a tree (children in text order). Theorems hold for every forest,
every nesting depth and every stack the parse starts on. -/
namespace Pushr.C03
open Pushr Pushr.Parse

mutual
def render : Item → List Tok
  | .list xs => .lp :: (renderL xs ++ [.rp])
  | t => [.atom t]
def renderL : List Item → List Tok
  | [] => []
  | t :: ts => render t ++ renderL ts
end

/-- context of the open list: the stacks of the enclosing levels, innermost first -/
def plug : List (List Item) → List Item → List Item
  | [], inner => inner
  | r :: ctx, inner => plug ctx (.list inner :: r)

theorem recPush_plug (ctx : List (List Item)) (s : List Item) (x : Item) (k : Nat) :
    recPush (plug ctx s) x (ctx.length + k) = plug ctx (recPush s x k) := by
  induction ctx generalizing s k with
  | nil => simp [plug]
  | cons r ctx ih =>
    simp only [plug, List.length_cons]
    rw [show ctx.length + 1 + k = ctx.length + (k + 1) by omega, ih]
    simp [recPush]

theorem parse_append (a b : List Tok) (s : List Item × Nat) :
    parseToks (a ++ b) s = parseToks b (parseToks a s) :=
  List.foldl_append

def IsAtom : Item → Prop
  | .list _ => False
  | _ => True

theorem push_plug (ctx : List (List Item)) (inner : List Item) (x : Item) :
    recPush (plug ctx inner) x ctx.length = plug ctx (x :: inner) := by
  have := recPush_plug ctx inner x 0
  rwa [recPush] at this

mutual
theorem parse_render (t : Item) (ctx : List (List Item)) (inner : List Item) :
    parseToks (render t) (plug ctx inner, ctx.length) = (plug ctx (rev t :: inner), ctx.length) := by
  cases t with
  | list ts =>
    -- "(" opens an empty list in the context `inner :: ctx`, the elements fill it, ")" closes it
    have open_ : parseStep (plug ctx inner, ctx.length) .lp = (plug (inner :: ctx) [], (inner :: ctx).length) := by
      rw [parseStep, push_plug]; rfl
    rw [render, parseToks, List.foldl_cons, List.foldl_append, open_]
    exact congrArg (parseStep · .rp) (parse_renderL ts (inner :: ctx) [])
  | _ => exact congrArg (·, ctx.length) (push_plug ctx inner _)
theorem parse_renderL (ts : List Item) (ctx : List (List Item)) (inner : List Item) :
    parseToks (renderL ts) (plug ctx inner, ctx.length) = (plug ctx (revL ts inner), ctx.length) := by
  cases ts with
  | nil => rfl
  | cons t ts => rw [renderL, parse_append, parse_render t ctx inner, parse_renderL ts ctx (rev t :: inner), revL]
end

/-- **C03.** A balanced forest, parsed onto any stack at depth 0, yields exactly its trees: same
nesting, same order, each new item below the previous one (so the first token ends up on top) -/
theorem parse_forest (ts : List Item) (st : List Item) :
    parseToks (renderL ts) (st, 0) = (revL ts st, 0) := by
  simpa [plug] using parse_renderL ts [] st

theorem revL_eq (xs acc : List Item) : revL xs acc = (xs.map rev).reverse ++ acc := by
  induction xs generalizing acc with
  | nil => rfl
  | cons x xs ih => simp [revL, ih]

mutual
theorem rev_rev (t : Item) : rev (rev t) = t := by
  cases t with
  | list xs => exact congrArg Item.list (revL_revL xs)
  | _ => rfl
theorem revL_revL (xs : List Item) : revL (revL xs []) [] = xs := by
  cases xs with
  | nil => rfl
  | cons x xs =>
    -- in closed form both sides are `map rev (map rev ·)`
    have := revL_revL xs
    simp only [revL_eq, List.append_nil, List.map_reverse, List.reverse_reverse] at this ⊢
    rw [List.map_cons, List.map_cons, this, rev_rev x]
end

/-- in the interpreter's own (top-first) convention: parsing the rendering of a forest onto an EXEC stack puts
the forest *below* what is there -/
theorem parse_render_below (ts old : List Item) :
    revL (parseToks (renderL ts) (revL old [], 0)).1 [] = old ++ ts := by
  rw [parse_forest, show revL ts (revL old []) = revL (old ++ ts) [] by simp [revL_eq], revL_revL]

theorem parse_render_roundtrip (ts : List Item) :
    revL (parseToks (renderL ts) (revL [] [], 0)).1 [] = ts :=
  parse_render_below ts []

theorem malformed_vector_dropped (a b : List Tok) (s : List Item × Nat) :
    parseToks (a ++ [.dropped] ++ b) s = parseToks (a ++ b) s := by
  simp [parseToks, List.foldl_append, parseStep]

/-- the repaired defect F14: no underflow of the depth counter -/
theorem unmatched_rparen_ignored (st : List Item) : parseStep (st, 0) .rp = (st, 0) := rfl

/-- by construction: the parser model is a function of the EXEC stack and the text only -/
theorem parse_frame (isInstr : String → Bool) (s : State) (code : String) :
    let s' := { s with exec := parseProgram isInstr s.exec code }
    s'.code = s.code ∧ s'.int = s.int ∧ s'.name = s.name ∧ s'.bindings = s.bindings ∧ s'.bool = s.bool := by
  simp

/-! ## the lexical cascade on concrete tokens -/
example : (match classify (fun _ => false) "INT[1,2]" with | .atom (.lit (.ivec v)) => v == [1, 2] | _ => false) = true := by decide
example : (match classify (fun _ => false) "INT[" with | .dropped => true | _ => false) = true := by decide
example : (match classify (fun _ => false) "INT[]" with | .dropped => true | _ => false) = true := by decide
example : (match classify (fun _ => false) "BOOL[1,0,true]" with | .atom (.lit (.bvec v)) => v == [true, false, true] | _ => false) = true := by decide
example : (match classify (fun _ => false) "BOOL[2]" with | .dropped => true | _ => false) = true := by decide
example : (match classify (fun _ => false) "-12" with | .atom (.lit (.int v)) => v == -12 | _ => false) = true := by decide
example : (match classify (fun _ => false) "TRUE" with | .atom (.lit (.bool b)) => b | _ => false) = true := by decide
example : (match classify (fun _ => false) "true" with | .atom (.ident n) => n == "true" | _ => false) = true := by decide

end Pushr.C03
