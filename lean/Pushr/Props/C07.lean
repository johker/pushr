import Pushr.Spec.C07
/-! # C07 — names: definition, lookup and quoting behave as documented for every type -/
namespace Pushr.C07
open Pushr

/-! ## the binding table is a function update: a later definition replaces an earlier one -/

theorem lookup_insert (k k' : String) (v : Item) (l : List (String × Item)) :
    bindLookup k' (bindInsert k v l) = if k' = k then some v else bindLookup k' l := by
  -- the cases of `bindInsert`: the empty table; `k` below the first key, equal to it, above it (the recursive one)
  fun_induction bindInsert k v l with
  | case1 => rfl
  | case2 k2 v2 t _ => rfl
  | case3 v2 t _ => simp only [bindLookup]; split <;> rfl
  | case4 k2 v2 t _ h ih =>
    simp only [bindLookup, ih]
    by_cases h1 : k' = k2
    · simp only [if_pos h1, if_neg (h1 ▸ Ne.symm h)]
    · simp only [if_neg h1]

theorem lookup_insert_self (k : String) (v : Item) (l : List (String × Item)) :
    bindLookup k (bindInsert k v l) = some v := by
  rw [lookup_insert, if_pos rfl]

theorem lookup_insert_other (k k' : String) (v : Item) (l : List (String × Item)) (h : k' ≠ k) :
    bindLookup k' (bindInsert k v l) = bindLookup k' l := by
  rw [lookup_insert, if_neg h]

theorem mem_of_bindLookup {k : String} {v : Item} {l : List (String × Item)} (h : bindLookup k l = some v) :
    (k, v) ∈ l := by
  fun_induction bindLookup k l with
  | case1 => cases h
  | case2 v' t => cases h; exact List.mem_cons_self
  | case3 k' v' t _ ih => exact List.mem_cons_of_mem _ (ih h)

theorem bindInsert_perm (k : String) (v : Item) (l : List (String × Item)) :
    ∃ l', l'.Sublist l ∧ (bindInsert k v l).Perm ((k, v) :: l') := by
  fun_induction bindInsert k v l with
  | case1 => exact ⟨[], .slnil, .refl _⟩
  | case2 k' v' t _ => exact ⟨_, .refl _, .refl _⟩
  | case3 v' t _ => exact ⟨t, List.sublist_cons_self _ t, .refl _⟩
  | case4 k' v' t _ _ ih =>
    obtain ⟨l', hs, hp⟩ := ih
    exact ⟨_ :: l', hs.cons_cons _, (hp.cons _).trans (.swap ..)⟩

theorem bindings_last_write_wins (k : String) (v1 v2 : Item) (l : List (String × Item)) :
    bindLookup k (bindInsert k v2 (bindInsert k v1 l)) = some v2 := lookup_insert_self k v2 _

variable (X : Ext) (ρ : Oracle)

theorem ident_step (s : State) (n : String) (e : List Item) (h : s.exec = .ident n :: e) :
    step X ρ s = (false, identStep s n e) := by
  simp only [step, h, identStep, table]
  cases s.quote
  · cases bindLookup n s.bindings <;> rfl
  · rfl

theorem ident_unbound_to_name_stack (s : State) (n : String) (e : List Item) (h : s.exec = .ident n :: e)
    (hq : s.quote = false) (hb : bindLookup n s.bindings = none) :
    (step X ρ s).2 = { s with exec := e, name := n :: s.name } := by
  rw [ident_step X ρ s n e h]; simp [identStep, table, hq, hb]

theorem ident_bound_pushes_exec (s : State) (n : String) (e : List Item) (v : Item) (h : s.exec = .ident n :: e)
    (hq : s.quote = false) (hb : bindLookup n s.bindings = some v) :
    (step X ρ s).2 = { s with exec := v :: e } := by
  rw [ident_step X ρ s n e h]; simp [identStep, table, hq, hb]

/-- NAME.QUOTE makes exactly the next encountered name go to the NAME stack, bound or not, and is then cleared -/
theorem quoted_name_goes_to_name_stack (s : State) (n : String) (e : List Item) (h : s.exec = .ident n :: e)
    (hq : s.quote = true) :
    (step X ρ s).2 = { s with exec := e, name := n :: s.name, quote := false } := by
  rw [ident_step X ρ s n e h]; simp [identStep, hq]

theorem name_quote_sets_flag (s : State) : sem X ρ (.name .quote) s = { s with quote := true } := rfl

theorem quote_survives_literal (s : State) (v : Lit) (e : List Item) (h : s.exec = .lit v :: e) :
    (step X ρ s).2.quote = s.quote := by
  unfold step; rw [h]; cases v <;> rfl

theorem quote_survives_list (s : State) (xs e : List Item) (h : s.exec = .list xs :: e) :
    (step X ρ s).2.quote = s.quote := by
  unfold step; rw [h]

theorem use_bound_literal (s : State) (n : String) (e : List Item) (v : Lit) (h : s.exec = .ident n :: e)
    (hq : s.quote = false) (hb : bindLookup n s.bindings = some (.lit v)) :
    stepN X ρ 2 s = pushLit { s with exec := e } v := by
  have h1 := ident_bound_pushes_exec X ρ s n e (.lit v) h hq hb
  simp only [stepN, h1]
  simp [step]

theorem define_meets_spec (t : Ty) (ht : t ≠ .name) (s : State) : semDefine t s = defineSpec t s := by
  -- with the record taken apart, both sides compute once the NAME stack and stack `t` are split
  obtain ⟨b, i, f, n, c, e, _, bv, iv, fv⟩ := s
  cases n with
  | nil => cases t <;> rfl
  | cons n ns =>
    cases t with
    | name => exact absurd rfl ht
    | bool => cases b <;> rfl
    | int => cases i <;> rfl
    | float => cases f <;> rfl
    | code => cases c <;> rfl
    | exec => cases e <;> rfl
    | bvec => cases bv <;> rfl
    | ivec => cases iv <;> rfl
    | fvec => cases fv <;> rfl

/-- `T.DEFINE` with a name and a value present: the name is consumed and bound to the top item of stack `T`
(a function update of the table: `lookup_insert`) -/
theorem define_binds (t : Ty) (ht : t ≠ .name) (s : State) (n : String) (ns : List String) (v : Item)
    (hn : s.name = n :: ns) (hv : boundItem t { s with name := ns } = some v) :
    (semDefine t s).bindings = bindInsert n v s.bindings ∧ (semDefine t s).name = ns := by
  rw [define_meets_spec t ht]
  simp only [defineSpec, hn, hv, true_and]
  cases t with
  | name => exact absurd rfl ht
  | _ => rfl

theorem define_then_lookup (t : Ty) (ht : t ≠ .name) (s : State) (n : String) (ns : List String) (v : Item)
    (hn : s.name = n :: ns) (hv : boundItem t { s with name := ns } = some v) :
    table (semDefine t s) n = some v := by
  unfold table; rw [(define_binds t ht s n ns v hn hv).1]; exact lookup_insert_self n v _

theorem define_without_name (t : Ty) (s : State) (hn : s.name = []) : semDefine t s = s := by
  cases t <;> simp [semDefine, defineWith, hn]

theorem code_definition_returns_binding (rc : Oracle → State → Nat → Option (Item × Nat)) (s : State)
    (n : String) (ns : List String) (v : Item) (hn : s.name = n :: ns) (hb : bindLookup n s.bindings = some v) :
    semCode rc ρ .definition s = { s with name := ns, code := v :: s.code } := by
  unfold semCode; simp only [hn, hb]

theorem code_definition_keeps_bindings (rc : Oracle → State → Nat → Option (Item × Nat)) (s : State) :
    (semCode rc ρ .definition s).bindings = s.bindings := by
  unfold semCode
  dsimp only
  split
  · rfl
  · split <;> rfl

/-! non-vacuity: the second definition of `a` wins -/
example : bindLookup "a" (bindInsert "a" (.lit (.int 2)) (bindInsert "a" (.lit (.int 1)) [])) = some (.lit (.int 2)) :=
  lookup_insert_self _ _ _

end Pushr.C07
