import Pushr.Props.C15_More
import Pushr.Props.C12
/-! # C15 (supplement): CODE.RAND is bounded by the CONFIGURED maximum, whatever the operand

K05 lists CODE.RAND among the instructions whose work is sized by an INTEGER operand. That is the whole truth only
when the configured maximum is huge: the item built has fewer than `min(|operand|, |max_points_in_random_expressions|)`
points, for every oracle, every operand of either sign and every (also negative) configuration value. The driver
uses this as the line between the recorded finding and a new defect of the same instruction. -/
open Pushr
namespace Pushr.C15

open scoped Peel

theorem coderand_growth_of (rc : Oracle → State → Nat → Option (Item × Nat)) (ρ : Oracle) (s : State) (i : Int32)
    (il : List Int32) (h : s.int = i :: il)
    (hrc : ∀ c pos, rc ρ { s with int := il } (randLimit s i) = some (c, pos) → c.size + 1 ≤ randLimit s i) :
    weight (semCode rc ρ .rand s) + 1 ≤ weight s + max (randLimit s i) 1 := by
  simp only [semCode, h]
  split
  · next c pos hr => have := hrc c pos hr; simp [*]; omega
  · simp [*]; omega

theorem randomCode_size_lt {ρ : Oracle} {s : State} {instrs : List Instr} {m pos : Nat} {c : Item}
    (h : Rand.randomCode ρ s instrs m = some (c, pos)) : c.size + 1 ≤ m := by
  by_cases hm : 2 ≤ m
  · obtain ⟨c', pos', hr, _, hc⟩ := C12.randomCode_bounds ρ s instrs m hm
    cases h.symm.trans hr
    omega
  · cases h.symm.trans (C12.randomCode_small ρ s instrs m (by omega))

/-- **CODE.RAND**: the state grows by fewer than `min(|operand|, |configured maximum|)` elementary items (not at all
when that is 0) -/
theorem coderand_growth (ρ : Oracle) (s : State) (i : Int32) (il : List Int32) (h : s.int = i :: il) :
    weight (semFull ρ (.code .rand) s) + 1 ≤ weight s + max (randLimit s i) 1 :=
  coderand_growth_of (fun ρ s m => Rand.randomCode ρ s Instr.all m) ρ s i il h fun _ _ hr => randomCode_size_lt hr

/-- in particular the growth is bounded by the configuration alone: no operand can push it past the configured maximum -/
theorem coderand_config_bound (ρ : Oracle) (s : State) :
    weight (semFull ρ (.code .rand) s) ≤ weight s + (i32Abs s.cfg.maxPointsRand).toInt.natAbs := by
  cases h : s.int with
  | nil =>
    show weight (semCode fullExt.randCode ρ .rand s) ≤ _
    simp only [semCode, h]; omega
  | cons i il =>
    have := coderand_growth ρ s i il h
    unfold randLimit at this
    omega

end Pushr.C15
