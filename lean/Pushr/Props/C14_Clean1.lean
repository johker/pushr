import Pushr.Props.C14_Clean0
import Pushr.Props.C10
import Pushr.Lemmas.Load
import Pushr.Lemmas.Stk
import Pushr.Props.C07
/-! # C14 (supplement, part 2) — static determinism: a clean program can never construct an instruction that uses the
hidden environment (the RAND family, GRAPH.NODE*ADD), so its run does not depend on anything outside the PushState -/
namespace Pushr.C14
open Pushr

variable (P : Instr → Bool)

def okState (s : State) : Bool :=
  okItems P s.exec && okItems P s.code && s.bindings.all (fun p => okItem P p.2)

theorem okState_def (s : State) :
    okState P s = (okItems P s.exec && okItems P s.code && s.bindings.all (fun p => okItem P p.2)) := rfl

theorem okState_iff (s : State) : okState P s = true ↔
    okItems P s.exec = true ∧ okItems P s.code = true ∧ ∀ p ∈ s.bindings, okItem P p.2 = true := by
  simp [okState, List.all_eq_true, and_assoc]

theorem okState_congr (s s' : State) (he : s'.exec = s.exec) (hc : s'.code = s.code) (hb : s'.bindings = s.bindings) :
    okState P s' = okState P s := by simp [okState, he, hc, hb]

theorem bindLookup_ok (n : String) (bs : List (String × Item)) (v : Item)
    (h : ∀ p ∈ bs, okItem P p.2 = true) (hv : bindLookup n bs = some v) : okItem P v = true :=
  h _ (C07.mem_of_bindLookup hv)

theorem bindInsert_ok (n : String) (v : Item) (bs : List (String × Item))
    (h : ∀ p ∈ bs, okItem P p.2 = true) (hv : okItem P v = true) :
    ∀ p ∈ bindInsert n v bs, okItem P p.2 = true := by
  obtain ⟨bs', hs, hp⟩ := C07.bindInsert_perm n v bs
  intro p hm
  rcases List.mem_cons.mp (hp.mem_iff.mp hm) with rfl | hm
  · exact hv
  · exact h p (hs.subset hm)

theorem okState_set_sub (t : Ty) (s : State) (l : List t.El) (h : okState P s = true) (hl : l ⊆ (tyLens t).get s) :
    okState P ((tyLens t).set s l) = true := by
  have h' := (okState_iff P s).mp h
  cases t
  case code => exact (okState_iff P _).mpr ⟨h'.1, okItems_sub P l _ hl h'.2.1, h'.2.2⟩
  case exec => exact (okState_iff P _).mpr ⟨okItems_sub P l _ hl h'.1, h'.2.1, h'.2.2⟩
  -- the other seven lenses leave `exec`, `code` and `bindings` alone: `okState` of the result computes to that of `s`
  all_goals exact h

theorem stk_ok (t : Ty) (o : SOp) (s : State) (h : okState P s = true) : okState P (semStk t o s) = true :=
  semStk_eq t o s ▸ stkOp_cases (Q := (okState P · = true)) (tyLens t) t o s h (fun _ => h)
    (fun l hl => okState_set_sub P t s l h hl.subset)
    fun _ il l _ hl => okState_set_sub P t { s with int := il } l h hl.subset

/-- the re-arming code the control instructions put on EXEC: CODE.POP by CODE.DO / DO*, INDEX.INCREASE with CODE.LOOP
resp. EXEC.LOOP by the two loops, EXEC.Y by itself, INTVECTOR.LOOP by itself -/
def RearmOk : Prop :=
  P (.stk .code .pop) = true ∧ P (.index .increase) = true ∧ P (.code .loop) = true ∧ P (.exec .loop) = true ∧
  P (.exec .y) = true ∧ P (.vec .i .loop) = true

/-- closes `okState P s' = true` once the matches are split: `okState` and `okItems` unfold to conjunctions about the
items named in the context (the bound values stay one opaque conjunct); the facts about the tree functions have been
put there by hand, the conjuncts of `RearmOk` by `obtain`. (`instr` is `Pushr.instr`, the constructor wrapper.) -/
macro "ok_tac" : tactic =>
  `(tactic| simp_all only [okState_def, Bool.and_eq_true, pushBool, pushInt, pushCode, pushName, okItems, okItem, instr,
      okItems_append, and_self, and_true, true_and])

theorem code_ok (hre : RearmOk P) (rc : Oracle → State → Nat → Option (Item × Nat)) (ρ : Oracle) (o : CodeOp) (s : State)
    (ho : o ≠ .rand) (h : okState P s = true) : okState P (semCode rc ρ o s) = true := by
  obtain ⟨r1, r2, r3, -, -, -⟩ := hre
  have hB := ((okState_iff P s).mp h).2.2
  cases o <;> simp only [semCode]
  case rand => exact absurd rfl ho
  -- the instructions that push a part of an operand: the branch that does so is the one `ok_tac` leaves open,
  -- and needs the fact about the tree function
  case container =>
    (repeat' split) <;> try (ok_tac; done)
    next hc => have := container_ok P _ _ _ (by ok_tac) hc; ok_tac
  case definition =>
    (repeat' split) <;> try (ok_tac; done)
    next hv => have := bindLookup_ok P _ s.bindings _ hB hv; ok_tac
  case extract =>
    (repeat' split) <;> try (ok_tac; done)
    next hel => have := trav_ok P _ _ _ (by ok_tac) hel; ok_tac
  case insert =>
    (repeat' split) <;> try (ok_tac; done)
    next ht => have := ins_ok P _ _ _ _ (by ok_tac) (by ok_tac) ht; ok_tac
  case nth =>
    (repeat' split) <;> try (ok_tac; done)
    next hx => have := okItems_mem P _ (by ok_tac) _ (List.mem_of_getElem? hx); ok_tac
  case cons =>
    (repeat' split) <;> try (ok_tac; done)
    next b a _ _ => have := consElems_ok P a (by ok_tac); have := consElems_ok P b (by ok_tac); ok_tac
  case subst =>
    (repeat' split) <;> try (ok_tac; done)
    next target sub pat _ _ => have := subst_ok P target pat sub (by ok_tac) (by ok_tac); ok_tac
  case cdr =>
    (repeat' split) <;> try (ok_tac; done)
    next xs _ _ => have : okItems P xs.tail = true := okItems_sub P _ xs (fun _ => List.mem_of_mem_tail) (by ok_tac); ok_tac
  all_goals
    (repeat' split) <;> ok_tac

theorem exec_ok (hre : RearmOk P) (o : ExecOp) (s : State) (h : okState P s = true) : okState P (semExec o s) = true := by
  -- every combinator rearranges items that are on EXEC already; EXEC.LOOP adds INDEX.INCREASE and itself (`r2`, `r4`),
  -- EXEC.Y itself (`r5`)
  obtain ⟨-, r2, -, r4, r5, -⟩ := hre
  cases o <;> simp only [semExec]
  all_goals (repeat' split) <;> ok_tac

theorem popTop_ok {P : Instr → Bool} {s s' : State} {it : Item} (hp : PopTop s it s') (h : okState P s = true) :
    okItem P it = true ∧ okState P s' = true := by
  have h' := (okState_iff P s).mp h
  cases hp with
  | code hs =>
    have hc := h'.2.1
    rw [hs, okItems, Bool.and_eq_true] at hc
    exact ⟨hc.1, (okState_iff P _).mpr ⟨h'.1, hc.2, h'.2.2⟩⟩
  | exec hs =>
    have he := h'.1
    rw [hs, okItems, Bool.and_eq_true] at he
    exact ⟨he.1, (okState_iff P _).mpr ⟨he.2, h'.2.1, h'.2.2⟩⟩
  | _ => exact ⟨rfl, h⟩

theorem define_ok (t : Ty) (s : State) (h : okState P s = true) : okState P (semDefine t s) = true :=
  semDefine_induct (Q := (okState P · = true)) t s h (fun _ _ _ => h) fun n ns v s2 _ hv =>
    have ⟨hv, h2⟩ := popTop_ok (P := P) (s := { s with name := ns }) (popItem_popTop hv) h
    have h2 := (okState_iff P s2).mp h2
    (okState_iff P _).mpr ⟨h2.1, h2.2.1, bindInsert_ok P n v _ h2.2.2 hv⟩

theorem popById_ok (s s' : State) (sid : Int32) (it : Item) (h : okState P s = true)
    (hp : popById s sid = some (it, s')) : okItem P it = true ∧ okState P s' = true :=
  let ⟨_, _, ht⟩ := popById_some hp
  popTop_ok (popItem_popTop ht) h

theorem loadFold_ok (ids : List Int32) (s : State) (acc : List Item) (h : okState P s = true)
    (ha : okItems P acc = true) :
    okItems P (loadFold ids s acc).1 = true ∧ okState P (loadFold ids s acc).2 = true :=
  loadFold_induct (P := fun acc s => okItems P acc = true ∧ okState P s = true) ids ⟨ha, h⟩
    fun ih hp =>
      have := popTop_ok (popItem_popTop hp) ih.2
      ⟨by rw [okItems_append, ih.1, okItems, this.1]; rfl, this.2⟩

theorem loadItems_ok (s s' : State) (r : Item) (h : okState P s = true) (hl : loadItems s = some (r, s')) :
    okItem P r = true ∧ okState P s' = true := by
  obtain ⟨ids, l, _, rfl, rfl⟩ := loadItems_some hl
  have := loadFold_ok P ids { s with ivec := l } [] h rfl
  exact ⟨(okItems_reverse P _).trans this.1, this.2⟩

theorem ok_of_agree {F : List C10.Field} {s s' : State} (ha : C10.AgreeOff F s' s)
    (hf : C10.Field.exec ∉ F ∧ C10.Field.code ∉ F ∧ C10.Field.bindings ∉ F) (h : okState P s = true) :
    okState P s' = true :=
  (okState_congr P s _ (ha.field .exec hf.1) (ha.field .code hf.2.1) (ha.field .bindings hf.2.2)).trans h

theorem list_ok (o : ListOp) (s : State) (h : okState P s = true) : okState P (semList o s) = true := by
  have h' := (okState_iff P s).mp h
  cases o
  case add =>
    simp only [semList]
    split
    · next r s' hl =>
      obtain ⟨h1, h2⟩ := loadItems_ok P s s' r h hl
      have h2 := (okState_iff P s').mp h2
      exact (okState_iff P _).mpr ⟨h2.1, (Bool.and_eq_true _ _).mpr ⟨h1, h2.2.1⟩, h2.2.2⟩
    · exact h
  case remove =>
    simp only [semList]
    split
    · exact h
    · exact (okState_iff P _).mpr ⟨h'.1, okItems_sub P _ _ (fun _ => List.mem_of_mem_eraseIdx) h'.2.1, h'.2.2⟩
  case get =>
    simp only [semList]
    split
    · exact h
    · split
      · next xs hx =>
        have : okItem P (.list xs) = true := okItems_mem P s.code h'.2.1 _ (List.mem_of_getElem? hx)
        exact (okState_iff P _).mpr ⟨(Bool.and_eq_true _ _).mpr ⟨this, h'.1⟩, h'.2.1, h'.2.2⟩
      · exact h
  case set =>
    simp only [semList]
    split
    · exact h
    · next i il hi =>
      split
      · exact h
      · next r s2 hl =>
        obtain ⟨h1, h2⟩ := loadItems_ok P { s with int := il } s2 r h hl
        split
        · exact h2
        · have h2 := (okState_iff P s2).mp h2
          exact (okState_iff P _).mpr ⟨h2.1, okItems_set P h2.2.1 h1, h2.2.2⟩
  all_goals exact ok_of_agree P (C10.frame_list _ s) (by decide) h

/-- INTVECTOR.LOOP re-arms with a vector literal, itself and the body -/
theorem vec_ok (hre : RearmOk P) (ρ : Oracle) (t : VTy) (o : VecOp) (s : State) (h : okState P s = true) :
    okState P (semVec ρ t o s) = true := by
  by_cases hl : o = .loop
  · subst hl
    cases t
    · exact h
    · obtain ⟨-, -, -, -, -, r6⟩ := hre
      simp only [semVec, semVecI]
      (repeat' split) <;> ok_tac
    · exact h
  · exact ok_of_agree P (C10.sem_respects ρ (.vec t o) s).frame
      (by cases o with | loop => exact absurd rfl hl | _ => cases t <;> decide) h

/-- **every instruction except CODE.RAND preserves the syntactic invariant**: the instructions occurring anywhere in
EXEC, CODE and the bound values afterwards are instructions that occurred before, or re-arming code -/
theorem sem_ok (hre : RearmOk P) (ρ : Oracle) (i : Instr) (s : State) (hi : i ≠ .code .rand)
    (h : okState P s = true) : okState P (semFull ρ i s) = true := by
  cases i with
  | noop => exact h
  | unknown n => exact h
  | stk t o => exact stk_ok P t o s h
  | define t => exact define_ok P t s h
  | code o => exact code_ok P hre _ ρ o s (fun hh => hi (by rw [hh])) h
  | exec o => exact exec_ok P hre o s h
  | vec t o => exact vec_ok P hre ρ t o s h
  | list o => exact list_ok P o s h
  | boolean o | integer o | float o | name o | index o | io o | graph o =>
    exact ok_of_agree P (C10.sem_respects ρ _ s).frame (by cases o <;> decide) h

theorem step_ok (hre : RearmOk P) (hr : P (.code .rand) = false) (ρ : Oracle) (s : State) (h : okState P s = true) :
    okState P (stepFull ρ s).2 = true := by
  obtain ⟨hE, hC, hB⟩ := (okState_iff P s).mp h
  unfold stepFull step
  cases he : s.exec with
  | nil => exact h
  | cons x e =>
    -- `x` is clean and leaves EXEC; what it puts back or runs is clean too
    rw [he, okItems, Bool.and_eq_true] at hE
    have pop : okState P { s with exec := e } = true := (okState_iff P _).mpr ⟨hE.2, hC, hB⟩
    cases x with
    | lit v => cases v <;> exact pop
    | ident n =>
      dsimp only
      split
      · exact pop
      · split
        · next item hl =>
          exact (okState_iff P _).mpr ⟨(Bool.and_eq_true _ _).mpr ⟨bindLookup_ok P n s.bindings item hB hl, hE.2⟩, hC, hB⟩
        · exact pop
    | instr i => exact sem_ok P hre ρ i _ (fun hi => by rw [hi, okItem, hr] at hE; exact Bool.noConfusion hE.1) pop
    | list xs => exact (okState_iff P _).mpr ⟨(okItems_append P xs e).trans ((Bool.and_eq_true _ _).mpr hE), hC, hB⟩

theorem stepN_ok (hre : RearmOk P) (hr : P (.code .rand) = false) (ρ : Oracle) (n : Nat) (s : State)
    (h : okState P s = true) : okState P (stepN fullExt ρ n s) = true := by
  induction n generalizing s with
  | zero => exact h
  | succ n ih => simp only [stepN]; exact ih _ (step_ok P hre hr ρ s h)

/-- a program is *clean* when no RAND instruction and no GRAPH.NODE*ADD occurs anywhere in EXEC, CODE or a bound value -/
def Clean (s : State) : Bool := okState (fun i => !usesEnv i) s

theorem clean_invariant (ρ : Oracle) (n : Nat) (s : State) (h : Clean s = true) : Clean (stepN fullExt ρ n s) = true :=
  stepN_ok _ (by simp [RearmOk, usesEnv]) (by simp [usesEnv]) ρ n s h

/-- **static determinism**: for a clean program — a syntactic condition on the initial state only — every run, of any
length, reaches the same state for EVERY oracle: the random source cannot influence it (and it never asks for a node
id: `Clean` excludes GRAPH.NODE*ADD) -/
theorem clean_deterministic (ρ₁ ρ₂ : Oracle) (n : Nat) (s : State) (h : Clean s = true) :
    stepN fullExt ρ₁ n s = stepN fullExt ρ₂ n s := by
  apply stepN_oracle_indep
  intro k _ i e he
  -- the state after `k` steps is clean, so the instruction on top of its EXEC stack is
  have h1 := ((okState_iff _ _).mp (clean_invariant ρ₁ k s h)).1
  rw [he] at h1
  simp only [okItems, okItem, Bool.and_eq_true, Bool.not_eq_true'] at h1
  exact h1.1

/-- non-vacuity: a clean program, and one that is not -/
example : Clean { Pushr.C15.emptyState with
    exec := [.list [.lit (.int 1), .instr (.exec .y), .list [.instr (.stk .int .dup), .instr (.integer .add)]]] } = true := by
  decide
example : Clean { Pushr.C15.emptyState with exec := [.instr (.integer .rand)] } = false := by decide

end Pushr.C14
