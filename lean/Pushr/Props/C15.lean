import Pushr.Lemmas.Weight
import Pushr.Lemmas.Stk
import Pushr.Props.C08
import Pushr.Props.C07
/-! # C15 — a step's time and memory are bounded by the state, not by operand magnitude

The property is FALSE on the pinned tree in two ways that are not small repairs (they need a new
limit and a policy) and are recorded as known findings:

* K05 — ONES / ZEROS / *VECTOR.RAND / SINE / LIST.NEIGHBOR* / CODE.RAND size their work by an
  INTEGER operand (`k05_operand_sized`: from a state of weight 1 the result can exceed any bound
  below 2^31 - 1);
* K06 — `max_points_in_program` is consulted nowhere (`k06_growth_unbounded`: a five-token program
  doubles a CODE item past the default limit of 100 points within 30 steps, with every limit at
  its default).

Proved part: for 257 of the 280 registered instructions a step adds at most a copy of what the state already holds
(`growth_bounded_partial3` in `C15_Graph`; this file has the scalar, stack-manipulation, NAME and CODE families,
`growth_bounded_partial`). -/
namespace Pushr.C15
open Pushr

/-- K05: for every bound `B < 2^31 - 1` there is a state of weight 1 on which INTVECTOR.ONES
produces a state heavier than `B` -/
theorem k05_operand_sized (ρ : Oracle) (B : Nat) (hB : B < 2147483647) :
    ∃ s : State, weight s = 1 ∧ weight (semFull ρ (.vec .i .ones) s) > B := by
  refine ⟨{ emptyState with int := [Int32.ofNat (B + 1)] }, rfl, ?_⟩
  have hto : (Int32.ofNat (B + 1)).toInt = (B + 1 : Nat) := by
    rw [← Int32.ofInt_eq_ofNat, Int32.toInt_ofInt]
    apply Int.bmod_eq_of_le <;> (simp [Int32.size]; omega)
  have hpos : Int32.ofNat (B + 1) > 0 := by
    rw [gt_iff_lt, Int32.lt_iff_toInt_lt, hto]; simp
  simp only [semFull, sem, fullExt, semVec, semVecI, hpos, if_true, hto]
  simp [weight, emptyState]
  omega

/-- the doubling program `( CODE.QUOTE ( 1 ) EXEC.Y ( CODE.DUP CODE.LIST ) )` -/
def k06Witness : State :=
  { emptyState with
    exec := [.instr (.code .quote), .list [.lit (.int 1)], .instr (.exec .y),
             .list [.instr (.stk .code .dup), .instr (.code .list)]] }

/-- K06: after 30 steps — far below the step limit of 1000, no growth cap tripped (each step adds at
most one stack entry) — the CODE stack holds an item with 191 points; the configured maximum number
of points in a program is 100 -/
theorem k06_growth_unbounded :
    maxItem (stepN fullExt (fun _ => 0) 30 k06Witness) = 191 ∧ k06Witness.cfg.maxPointsProg = 100 := by
  decide

/-! ## the proved part

Every family proof below (the stack family apart, which goes through the lens law `Weighted`) has one shape: unfold the
instruction, split its `match`es, and let `simp` peel the pops and
pushes off both sides (`weight_eq_W`, the `W_cons_*` rules and the equations `s.int = i :: il` the split produced);
what is left compares `W core + pushed` with `W core + popped`. -/

open scoped Peel

theorem weight_pushInt (s : State) (i : Int32) : weight (pushInt s i) = weight s + 1 := by simp; omega
theorem weight_pushFloat (s : State) (f : Float32) : weight (pushFloat s f) = weight s + 1 := by simp; omega

theorem weight_popInt (s : State) (i : Int32) (it : List Int32) (h : s.int = i :: it) :
    weight { s with int := it } + 1 = weight s := by
  simp [h]; omega

theorem bool_growth (ρ : Oracle) (o : BoolOp) (s : State) : weight (semBool ρ o s) ≤ weight s + 1 := by
  cases o <;> simp only [semBool, bin2, Lens.bool]
  all_goals (repeat' split) <;> simp +arith [*]

theorem int_growth (ρ : Oracle) (o : IntOp) (s : State) : weight (semInt ρ o s) ≤ weight s + 2 := by
  cases o <;> simp only [semInt, bin2, Lens.int]
  all_goals (repeat' split) <;> simp +arith [*]

theorem float_growth (ρ : Oracle) (o : FloatOp) (s : State) : weight (semFloat ρ o s) ≤ weight s + 1 := by
  cases o <;> simp only [semFloat, bin2, un1, Lens.float]
  all_goals (repeat' split) <;> simp +arith [*]

theorem index_growth (o : IndexOp) (s : State) : weight (semIndex o s) ≤ weight s + 1 := by
  cases o <;> simp only [semIndex]
  all_goals (repeat' split) <;> simp +arith [*, R]

theorem sumMap_tail_le2 {α : Type} (f : α → Nat) (l : List α) : sumMap f l.tail ≤ sumMap f l :=
  sumMap_sublist f (List.tail_sublist l)

theorem stkNew_sumMap_le {α : Type} {l l' : List α} (f : α → Nat) (h : StkNew l l') :
    sumMap f l' ≤ 2 * sumMap f l := by
  cases h with
  | sub h => have := sumMap_sublist f h; omega
  | perm h => have := sumMap_perm f h; omega
  | copy h => have := sumMap_mem_le f h; simp only [sumMap_cons]; omega

/-- **every DUP / POP / SWAP / ROT / YANK / YANKDUP / SHOVE / FLUSH / STACKDEPTH / ID**, on every
stack type: the state at most doubles (one item is copied), whatever the index operand -/
theorem stkOp_growth {α : Type} {L : Lens α} {f : α → Nat} (hW : Weighted L f) (t : Ty) (o : SOp) (s : State) :
    weight (stkOp L t o s) ≤ 2 * weight s + 1 := by
  -- the lens law prices the new list (`hW _ l`) at twice the old (`stkNew_sumMap_le`), which the state already weighs
  -- (`get_le`)
  refine stkOp_cases (Q := (weight · ≤ 2 * weight s + 1)) L t o s (by omega) (fun n => by rw [weight_pushInt]; omega)
    (fun l hl => ?_) fun i il l hi hl => ?_
  · have := hW s l
    have := stkNew_sumMap_le f hl
    have := hW.get_le s
    omega
  · -- taking the index frees 1
    have := weight_popInt s i il hi
    have := hW { s with int := il } l
    have := stkNew_sumMap_le f hl
    have := hW.get_le { s with int := il }
    omega

theorem stk_growth (t : Ty) (o : SOp) (s : State) : weight (semStk t o s) ≤ 2 * weight s + 1 :=
  semStk_eq t o s ▸ stkOp_growth (weighted_ty t) t o s

/-- NAME.= / CAT / QUOTE / SEND add at most one item (CAT: one separator character) -/
theorem name_growth (ρ : Oracle) (o : NameOp) (s : State) (h : o ≠ .rand ∧ o ≠ .randbound) :
    weight (semName ρ o s) ≤ weight s + 1 := by
  cases o <;> simp only [semName, bin2, Lens.name]
  case rand | randbound => simp at h
  all_goals (repeat' split) <;> simp +arith [*, String.length_append, (by decide : " ".length = 1)]

theorem size_le_hered (n : Nat) (xs : List Item) (h : (Item.list xs).size ≤ n) (x : Item) (hx : x ∈ xs) : x.size ≤ n := by
  have := sumMap_mem_le Item.size hx
  simp only [Item.size, sizeL_eq_sumMap] at h
  omega

theorem size_le_of_mem_points (t q : Item) (h : q ∈ Item.points t) : q.size ≤ t.size :=
  C08.forall_mem_points (Q := (·.size ≤ t.size)) (size_le_hered _) t (Nat.le_refl _) q h
theorem size_le_of_mem_pointsL (xs : List Item) (q : Item) (h : q ∈ Item.pointsL xs) : q.size ≤ Item.sizeL xs :=
  C08.forall_mem_pointsL (Q := (·.size ≤ Item.sizeL xs)) (size_le_hered _) xs
    (fun _ hx => sizeL_eq_sumMap xs ▸ sumMap_mem_le Item.size hx) q h

theorem trav_size_le (t r : Item) (d : Nat) (hd : d < t.size) (h : Item.trav t d = .ok r) : r.size ≤ t.size :=
  size_le_of_mem_points t r (C08.mem_points_of_trav h)

theorem consElems_sizeL_le (a : Item) : sumMap Item.size (consElems a) ≤ a.size := by
  cases a <;> simp [consElems, Item.size]

theorem bindLookup_size_le (n : String) (bs : List (String × Item)) (v : Item) (h : bindLookup n bs = some v) :
    v.size ≤ sumMap (fun p => 1 + p.1.length + p.2.size) bs := by
  have := sumMap_mem_le (fun p : String × Item => 1 + p.1.length + p.2.size) (C07.mem_of_bindLookup h)
  simp only at this; omega

theorem insL_size_le (xs : List Item) (x : Item) (xs' : List Item) (d : Nat) (h : Item.insL xs x d = .ok xs') :
    Item.sizeL xs' ≤ Item.sizeL xs + x.size := by
  obtain ⟨old, hr⟩ := C08.replAt_of_insL h
  have := hr.sizeL; omega
theorem ins_size_le (t x t' : Item) (d : Nat) (h : Item.ins t x d = .ok t') : t'.size ≤ t.size + x.size := by
  obtain ⟨old, ys, ys', rfl, rfl, hr⟩ := C08.replAt_of_ins h
  have := hr.sizeL
  simp only [Item.size]; omega

/-- all CODE instructions except SUBST (quadratic), PRINT (characters) and RAND (K05): each pushes whole operands or
(a rearrangement of) parts of what the state already holds -/
theorem code_growth (rc : Oracle → State → Nat → Option (Item × Nat)) (ρ : Oracle) (o : CodeOp) (s : State)
    (h : o ≠ .subst ∧ o ≠ .print ∧ o ≠ .rand) :
    weight (semCode rc ρ o s) ≤ 2 * weight s + 4 := by
  cases o
  case subst => exact absurd rfl h.1
  case print => exact absurd rfl h.2.1
  case rand => exact absurd rfl h.2.2
  all_goals clear h; simp only [semCode]
  -- the instructions that push a part of an operand: `simp` closes every branch but the one that does so, and leaves
  -- there the inequality between the sizes, which the fact about the tree function settles
  case cdr =>
    (repeat' split) <;> try simp +arith [*, Item.size]
    next xs _ _ => have := sumMap_tail_le2 Item.size xs; omega
  case cons =>
    (repeat' split) <;> try simp +arith [*, Item.size, sumMap_append]
    next b a _ _ => have := consElems_sizeL_le a; have := consElems_sizeL_le b; omega
  case container =>
    (repeat' split) <;> try simp +arith [*, Item.size]
    next hc => have := size_le_of_mem_points _ _ (C08.container_spec _ _ _ hc).1; omega
  case definition =>
    (repeat' split) <;> try simp +arith [*]
    next hv => have := bindLookup_size_le _ _ _ hv; simp only [R]; omega
  case extract =>
    (repeat' split) <;> try simp +arith [*]
    next hel => have := size_le_of_mem_points _ _ (C08.mem_points_of_trav hel); omega
  case insert =>
    (repeat' split) <;> try simp +arith [*]
    next hins => have := ins_size_le _ _ _ _ hins; omega
  case nth =>
    (repeat' split) <;> try simp +arith [*, Item.size]
    next hx => have := sumMap_getElem_le Item.size hx; omega
  case loop => (repeat' split) <;> simp +arith [*, R, Item.size, instr]
  all_goals (repeat' split) <;> simp +arith [*, Item.size, instr]

theorem code_growth_partial (rc : Oracle → State → Nat → Option (Item × Nat)) (ρ : Oracle) (o : CodeOp) (s : State)
    (h : o ≠ .subst ∧ o ≠ .print ∧ o ≠ .rand ∧ o ≠ .cons ∧ o ≠ .container ∧ o ≠ .definition ∧ o ≠ .extract ∧
         o ≠ .insert ∧ o ≠ .nth ∧ o ≠ .loop) :
    weight (semCode rc ρ o s) ≤ 2 * weight s + 4 :=
  code_growth rc ρ o s ⟨h.1, h.2.1, h.2.2.1⟩

theorem code_growth_parts (rc : Oracle → State → Nat → Option (Item × Nat)) (ρ : Oracle) (o : CodeOp) (s : State)
    (h : o = .cons ∨ o = .container ∨ o = .definition ∨ o = .extract ∨ o = .insert ∨ o = .nth ∨ o = .loop) :
    weight (semCode rc ρ o s) ≤ 2 * weight s + 4 :=
  code_growth rc ρ o s (by rcases h with rfl | rfl | rfl | rfl | rfl | rfl | rfl <;> decide)

def covered : Instr → Bool
  | .boolean _ | .integer _ | .float _ | .index _ | .stk _ _ => true
  | .name o => o != .rand && o != .randbound
  | .code o => o != .subst && o != .print && o != .rand
  | _ => false

/-- **C15, proved part**: for the BOOLEAN / INTEGER / FLOAT / INDEX families a step's growth is a
constant; for the 87 generic stack instructions (78 stack manipulations and the nine `T.ID`), 4 of the 6 NAME instructions and 29 of the 32 CODE
instructions it is at most a copy of what the state already holds plus a constant — whatever the
operand values -/
theorem growth_bounded_partial (ρ : Oracle) (i : Instr) (s : State) (h : covered i = true) :
    weight (semFull ρ i s) ≤ (match i with
      | .boolean _ | .integer _ | .float _ | .index _ => weight s + 2
      | _ => 2 * weight s + 4) := by
  cases i with
  | boolean o => exact Nat.le_trans (bool_growth ρ o s) (Nat.le_succ _)
  | integer o => exact int_growth ρ o s
  | float o => exact Nat.le_trans (float_growth ρ o s) (Nat.le_succ _)
  | index o => exact Nat.le_trans (index_growth o s) (Nat.le_succ _)
  | stk t o => exact Nat.le_trans (stk_growth t o s) (show _ ≤ 2 * weight s + 4 by omega)
  | name o => exact Nat.le_trans (name_growth ρ o s (by simpa [covered] using h)) (show _ ≤ 2 * weight s + 4 by omega)
  | code o => exact code_growth _ ρ o s (by simpa [covered, and_assoc] using h)
  | _ => cases h

set_option maxRecDepth 8000 in
example : (Instr.all.filter covered).length = 165 := by decide

/-- the doubling bound of the stack family is attained -/
example : weight (semStk .code .dup { emptyState with code := [.list [.lit (.int 1), .lit (.int 2)]] }) = 6
    ∧ weight { emptyState with code := [.list [.lit (.int 1), .lit (.int 2)]] } = 3 := by decide

end Pushr.C15
