import Pushr.Interp
import Pushr.Spec.C15
/-! # C02 — the run loop honours the step and growth limits and reports the right outcome

`run` = `copyToCode` followed by `runLoop` (the Rust loop verbatim: step-limit check, time check,
step, growth check, counter increment). The clock is abstract (`timeout : Nat → Bool`): the theorems
hold for every clock. `k` counts the executed steps. -/
namespace Pushr.C02
open Pushr

variable (X : Ext) (ρ : Oracle)

theorem step_empty (s : State) (h : s.exec = []) : step X ρ s = (true, s) := by
  simp [step, h]

theorem step_done_iff (s : State) : (step X ρ s).1 = true ↔ s.exec = [] := by
  unfold step
  cases h : s.exec with
  | nil => simp
  | cons x e =>
    cases x with
    | list _ | instr _ | lit _ => simp
    | ident n =>
      simp only
      split
      · simp
      · split <;> simp

theorem stepN_add (a b : Nat) (s : State) : stepN X ρ (a + b) s = stepN X ρ b (stepN X ρ a s) := by
  induction a generalizing s with
  | zero => rw [Nat.zero_add]; rfl
  | succ a ih => rw [Nat.succ_add]; exact ih _

theorem stepN_succ_right (n : Nat) (s : State) :
    stepN X ρ (n + 1) s = (step X ρ (stepN X ρ n s)).2 := stepN_add X ρ n 1 s

theorem stepN_cfg (hcfg : ∀ s, (step X ρ s).2.cfg = s.cfg) (n : Nat) (s : State) : (stepN X ρ n s).cfg = s.cfg := by
  induction n generalizing s with
  | zero => rfl
  | succ n ih => rw [stepN, ih, hcfg]

def Grows (p : State) : Prop := (step X ρ p).2.size > p.size + p.cfg.growthCap

/-- `prev`: the state the last step started from, looked at for GrowthCapExceeded only -/
def Verdict (timeout : Nat → Bool) (L : Int) (out : Outcome) (k' : Nat) (s' prev : State) : Prop :=
  match out with
  | .noErrors => (k' : Int) ≤ L ∧ timeout k' = false ∧ s'.exec = []
  | .stepLimit => (k' : Int) > L
  | .timeLimit => (k' : Int) ≤ L ∧ timeout k' = true
  | .growthCap => Grows X ρ prev

/-- **every run of the loop**, with any fuel, whether or not an instruction rewrites the configuration (each check is
stated in the state the iteration found; `stepLimit` may also mean that the fuel is used up). The statements about
`runLoop` and `run` below are read off from this one induction (`runLoop_unfold_ok` and `runLoop_done` apart, which
unfold one iteration). -/
theorem runLoop_trace (timeout : Nat → Bool) (fuel k : Nat) (s : State) {out : Outcome} {k' : Nat} {s' : State}
    (hr : runLoop X ρ timeout fuel k s = (out, k', s')) :
    ∃ m, m ≤ fuel ∧ k' = k + m ∧ s' = stepN X ρ m s ∧
      (∀ i, i < m → ((k + i : Nat) : Int) ≤ (stepN X ρ i s).cfg.evalPushLimit.toInt ∧ timeout (k + i) = false ∧
        (stepN X ρ i s).exec ≠ [] ∧ (¬ Grows X ρ (stepN X ρ i s) ∨ (out = .growthCap ∧ i + 1 = m))) ∧
      -- `generalizing := false`: otherwise the `match` abstracts `out` in `hr` too
      match (generalizing := false) out with
      | .noErrors => (k' : Int) ≤ s'.cfg.evalPushLimit.toInt ∧ timeout k' = false ∧ s'.exec = []
      | .stepLimit => (k' : Int) > s'.cfg.evalPushLimit.toInt ∨ m = fuel
      | .timeLimit => (k' : Int) ≤ s'.cfg.evalPushLimit.toInt ∧ timeout k' = true
      | .growthCap => ∃ i, m = i + 1 ∧ Grows X ρ (stepN X ρ i s) := by
  -- one case per exit of the loop, in its order, and the iteration that goes on; the tests come as hypotheses
  fun_induction runLoop X ρ timeout fuel k s with
  | case1 k s => cases hr; exact ⟨0, Nat.le_refl 0, rfl, rfl, nofun, .inr rfl⟩
  | case2 fuel k s h1 => cases hr; exact ⟨0, Nat.zero_le _, rfl, rfl, nofun, .inl h1⟩
  | case3 fuel k s h1 h2 => cases hr; exact ⟨0, Nat.zero_le _, rfl, rfl, nofun, Int.not_lt.mp h1, h2⟩
  | case4 fuel k s h1 h2 h3 =>
    cases hr
    exact ⟨0, Nat.zero_le _, rfl, rfl, nofun, Int.not_lt.mp h1, Bool.eq_false_iff.mpr h2, (step_done_iff X ρ _).mp h3⟩
  | case5 fuel k s h1 h2 h3 h4 =>
    cases hr
    refine ⟨1, Nat.succ_pos fuel, rfl, rfl, fun i hi => ?_, 0, rfl, h4⟩
    obtain rfl := Nat.lt_one_iff.mp hi
    exact ⟨Int.not_lt.mp h1, Bool.eq_false_iff.mpr h2, mt (step_done_iff X ρ s).mpr h3, .inr ⟨rfl, rfl⟩⟩
  | case6 fuel k s h1 h2 h3 h4 ih =>
    obtain ⟨m, hm, hk, rfl, hp, hs⟩ := ih hr
    refine ⟨m + 1, Nat.succ_le_succ hm, hk.trans (Nat.add_right_comm k 1 m), rfl, fun i hi => ?_, ?_⟩
    · cases i with
      | zero => exact ⟨Int.not_lt.mp h1, Bool.eq_false_iff.mpr h2, mt (step_done_iff X ρ s).mpr h3, .inl h4⟩
      | succ i =>
        obtain ⟨a, b, c, d⟩ := hp i (Nat.lt_of_succ_lt_succ hi)
        rw [Nat.add_right_comm] at a b
        exact ⟨a, b, c, d.imp_right (.imp_right (congrArg (· + 1)))⟩
    · cases out with
      | growthCap => obtain ⟨i, rfl, hg⟩ := hs; exact ⟨i + 1, rfl, hg⟩
      | stepLimit => exact hs.imp_right (congrArg (· + 1))
      | _ => exact hs

theorem run_eq_stepN (timeout : Nat → Bool) (s : State) :
    (run X ρ timeout s).2.2 = stepN X ρ (run X ρ timeout s).2.1 (copyToCode s) := by
  obtain ⟨m, -, hk, hs, -⟩ := runLoop_trace X ρ timeout _ 0 (copyToCode s) rfl
  unfold run
  rw [hs, hk, Nat.zero_add]

theorem run_noErrors (timeout : Nat → Bool) (s : State) (h : (run X ρ timeout s).1 = .noErrors) :
    (run X ρ timeout s).2.2.exec = [] := by
  obtain ⟨m, -, -, -, -, hs⟩ := runLoop_trace X ρ timeout _ 0 (copyToCode s) rfl
  unfold run at h
  rw [h] at hs
  exact hs.2.2

/-- the number of executed steps never exceeds `eval_push_limit + 1`, provided no instruction
rewrites the configuration (`hcfg`; discharged for the full instruction set in `Props/C10`) -/
theorem run_steps_le (hcfg : ∀ s, (step X ρ s).2.cfg = s.cfg) (timeout : Nat → Bool) (s : State) :
    ((run X ρ timeout s).2.1 : Int) ≤ max (s.cfg.evalPushLimit.toInt + 1) 0 := by
  obtain ⟨m, -, hk, -, hp, -⟩ := runLoop_trace X ρ timeout _ 0 (copyToCode s) rfl
  unfold run
  rw [hk]
  cases m with
  | zero => omega
  | succ m =>
    have := (hp m (Nat.lt_succ_self m)).1
    rw [stepN_cfg X ρ hcfg] at this
    simp only [copyToCode] at this
    omega

theorem runLoop_growth (timeout : Nat → Bool) (fuel k : Nat) (s : State)
    (h : (runLoop X ρ timeout fuel k s).1 = .growthCap) :
    ∃ p : State, (runLoop X ρ timeout fuel k s).2.2 = (step X ρ p).2 ∧
      (step X ρ p).2.size > p.size + p.cfg.growthCap := by
  obtain ⟨m, -, -, hs', -, hs⟩ := runLoop_trace X ρ timeout fuel k s rfl
  rw [h] at hs
  obtain ⟨i, rfl, hg⟩ := hs
  exact ⟨_, by rw [hs', stepN_succ_right], hg⟩

theorem runLoop_unfold_ok (timeout : Nat → Bool) (fuel k : Nat) (s : State)
    (h1 : ¬ (k : Int) > s.cfg.evalPushLimit.toInt) (h2 : timeout k = false)
    (h3 : s.exec ≠ []) (h4 : ¬ (step X ρ s).2.size > s.size + s.cfg.growthCap) :
    runLoop X ρ timeout (fuel + 1) k s = runLoop X ρ timeout fuel (k + 1) (step X ρ s).2 := by
  have h3' : ¬ (step X ρ s).1 = true := fun hh => h3 ((step_done_iff X ρ s).mp hh)
  rw [runLoop]; simp only [h1, h2, h3', h4, if_false, Bool.false_eq_true]

theorem runLoop_done (timeout : Nat → Bool) (fuel k : Nat) (s : State)
    (h1 : ¬ (k : Int) > s.cfg.evalPushLimit.toInt) (h2 : timeout k = false) (h3 : s.exec = []) :
    runLoop X ρ timeout (fuel + 1) k s = (.noErrors, k, s) := by
  have h3' : (step X ρ s).1 = true := (step_done_iff X ρ s).mpr h3
  rw [runLoop]; simp only [h1, h2, h3', if_false, if_true, Bool.false_eq_true]

theorem copyToCode_spec (s : State) :
    (copyToCode s).code = s.exec ++ s.code ∧ (copyToCode s).exec = s.exec := ⟨rfl, rfl⟩

theorem size_def (s : State) :
    s.size = s.bool.length + s.float.length + s.int.length + s.name.length + s.code.length
      + s.exec.length + s.bvec.length + s.fvec.length + s.ivec.length := rfl

/-- **complete characterisation of the run loop** (every clock, every configuration): `runLoop_trace` with enough
fuel (`hf`), so that `stepLimit` has one meaning, and with the checks read in the initial configuration (`hcfg`). -/
theorem runLoop_spec (hcfg : ∀ s, (step X ρ s).2.cfg = s.cfg) (timeout : Nat → Bool) (fuel k : Nat) (s : State)
    (hf : (s.cfg.evalPushLimit.toInt + 2 - k).toNat < fuel) (out : Outcome) (k' : Nat) (s' : State)
    (hr : runLoop X ρ timeout fuel k s = (out, k', s')) :
    k ≤ k' ∧ s' = stepN X ρ (k' - k) s ∧
    (∀ j, k ≤ j → j < k' →
        (j : Int) ≤ s.cfg.evalPushLimit.toInt ∧ timeout j = false ∧ (stepN X ρ (j - k) s).exec ≠ [] ∧
        (¬ Grows X ρ (stepN X ρ (j - k) s) ∨ (out = .growthCap ∧ j + 1 = k'))) ∧
    Verdict X ρ timeout s.cfg.evalPushLimit.toInt out k' s' (stepN X ρ (k' - 1 - k) s) ∧
    (out = .growthCap → k < k') := by
  obtain ⟨m, -, rfl, rfl, hp, hs⟩ := runLoop_trace X ρ timeout fuel k s hr
  simp only [stepN_cfg X ρ hcfg] at hp hs
  refine ⟨Nat.le_add_right k m, by rw [Nat.add_sub_cancel_left], fun j hj hj' => ?_, ?_, ?_⟩
  · obtain ⟨i, rfl⟩ := Nat.exists_eq_add_of_le hj
    rw [Nat.add_sub_cancel_left]
    obtain ⟨a, b, c, d⟩ := hp i (Nat.lt_of_add_lt_add_left hj')
    exact ⟨a, b, c, d.imp_right (.imp_right (congrArg (k + ·)))⟩
  · cases out with
    | stepLimit =>
      -- the fuel is never used up: the last iteration passed the step-limit check
      refine hs.resolve_right fun hm => ?_
      cases m with
      | zero => omega
      | succ m => have := (hp m (Nat.lt_succ_self m)).1; omega
    | growthCap =>
      obtain ⟨i, rfl, hg⟩ := hs
      show Grows X ρ (stepN X ρ (k + i + 1 - 1 - k) s)
      rwa [Nat.add_sub_cancel, Nat.add_sub_cancel_left]
    | _ => exact hs
  · rintro rfl; obtain ⟨i, rfl, -⟩ := hs; exact Nat.lt_add_of_pos_right (Nat.succ_pos i)

theorem run_spec (hcfg : ∀ s, (step X ρ s).2.cfg = s.cfg) (timeout : Nat → Bool) (s : State)
    (out : Outcome) (k' : Nat) (s' : State) (hr : run X ρ timeout s = (out, k', s')) :
    s' = stepN X ρ k' (copyToCode s) ∧
    (∀ j, j < k' →
        (j : Int) ≤ s.cfg.evalPushLimit.toInt ∧ timeout j = false ∧ (stepN X ρ j (copyToCode s)).exec ≠ [] ∧
        (¬ Grows X ρ (stepN X ρ j (copyToCode s)) ∨ (out = .growthCap ∧ j + 1 = k'))) ∧
    Verdict X ρ timeout s.cfg.evalPushLimit.toInt out k' s' (stepN X ρ (k' - 1) (copyToCode s)) ∧
    (out = .growthCap → 0 < k') := by
  obtain ⟨-, b, c, d, e⟩ := runLoop_spec X ρ hcfg timeout _ 0 (copyToCode s) (by simp [copyToCode]) out k' s' hr
  exact ⟨b, fun j hj => c j (Nat.zero_le j) hj, d, e⟩

theorem run_stepLimit_only_when_needed (hcfg : ∀ s, (step X ρ s).2.cfg = s.cfg) (timeout : Nat → Bool) (s : State)
    (k' : Nat) (s' : State) (hr : run X ρ timeout s = (.stepLimit, k', s')) :
    (k' : Int) = max (s.cfg.evalPushLimit.toInt + 1) 0 ∧
    ∀ j : Nat, (j : Int) ≤ s.cfg.evalPushLimit.toInt → (stepN X ρ j (copyToCode s)).exec ≠ [] := by
  obtain ⟨_, c, d, _⟩ := run_spec X ρ hcfg timeout s _ _ _ hr
  have hle := run_steps_le X ρ hcfg timeout s
  rw [hr] at hle
  simp only [Verdict] at d
  exact ⟨by simp only at hle; omega, fun j hj => (c j (by omega)).2.2.1⟩

theorem run_timeLimit (hcfg : ∀ s, (step X ρ s).2.cfg = s.cfg) (timeout : Nat → Bool) (s : State)
    (k' : Nat) (s' : State) (hr : run X ρ timeout s = (.timeLimit, k', s')) :
    timeout k' = true ∧ ∀ j, j < k' → timeout j = false := by
  obtain ⟨_, c, d, _⟩ := run_spec X ρ hcfg timeout s _ _ _ hr
  exact ⟨d.2, fun j hj => (c j hj).2.1⟩

theorem run_growthCap (hcfg : ∀ s, (step X ρ s).2.cfg = s.cfg) (timeout : Nat → Bool) (s : State)
    (k' : Nat) (s' : State) (hr : run X ρ timeout s = (.growthCap, k', s')) :
    0 < k' ∧ Grows X ρ (stepN X ρ (k' - 1) (copyToCode s)) ∧
    ∀ j, j + 1 < k' → ¬ Grows X ρ (stepN X ρ j (copyToCode s)) := by
  obtain ⟨_, c, d, e⟩ := run_spec X ρ hcfg timeout s _ _ _ hr
  refine ⟨e rfl, d, fun j hj => ?_⟩
  rcases (c j (by omega)).2.2.2 with h | ⟨_, h⟩
  · exact h
  · omega

/-- the converse: for a program that finishes inside all limits the loop cannot stop early and cannot report a limit -/
theorem run_short_program (hcfg : ∀ s, (step X ρ s).2.cfg = s.cfg) (timeout : Nat → Bool) (m : Nat) (s : State)
    (hm : (m : Int) ≤ s.cfg.evalPushLimit.toInt) (ht : ∀ j, j ≤ m → timeout j = false)
    (hq : ∀ j, j < m → (stepN X ρ j (copyToCode s)).exec ≠ [] ∧ ¬ Grows X ρ (stepN X ρ j (copyToCode s)))
    (he : (stepN X ρ m (copyToCode s)).exec = []) :
    run X ρ timeout s = (.noErrors, m, stepN X ρ m (copyToCode s)) := by
  -- the run stops at some `k'`; every `k' ≠ m` and every outcome but NoErrors contradicts a hypothesis
  generalize hr : run X ρ timeout s = r
  obtain ⟨out, k', s'⟩ := r
  obtain ⟨rfl, c, d, e⟩ := run_spec X ρ hcfg timeout s _ _ _ hr
  have hle : k' ≤ m := Nat.le_of_not_lt fun h => (c m h).2.2.1 he
  cases out with
  | noErrors =>
    obtain rfl : k' = m := Nat.le_antisymm hle (Nat.le_of_not_lt fun h => (hq k' h).1 d.2.2)
    rfl
  | stepLimit => exact absurd d (by simp only [Verdict]; omega)
  | timeLimit => exact absurd d.2 (by simp [ht k' hle])
  | growthCap => exact absurd d (hq (k' - 1) (by have := e rfl; omega)).2

/-! non-vacuity: each of the four outcomes occurs -/
section examples
open Pushr.C15 in
example :
    let s : State := { Pushr.C15.emptyState with
      exec := [.list [.lit (.int 1), .lit (.int 2), .instr (.integer .add)]] }
    (runFull (fun _ => 0) (fun _ => false) s).1 = .noErrors ∧ (runFull (fun _ => 0) (fun _ => false) s).2.1 = 4
    ∧ (runFull (fun _ => 0) (fun _ => false) s).2.2.int = [3]
    ∧ (runFull (fun _ => 0) (fun _ => false) s).2.2.exec = [] := by decide
example :
    let s : State := { Pushr.C15.emptyState with
      cfg := { Pushr.C15.emptyState.cfg with evalPushLimit := 2 }
      exec := [.list [.lit (.int 1), .lit (.int 2), .instr (.integer .add)]] }
    (runFull (fun _ => 0) (fun _ => false) s).1 = .stepLimit ∧ (runFull (fun _ => 0) (fun _ => false) s).2.1 = 3 := by
  decide
example :
    let s : State := { Pushr.C15.emptyState with
      cfg := { Pushr.C15.emptyState.cfg with growthCap := 1 }
      exec := [.list [.lit (.int 1), .lit (.int 2), .instr (.integer .add)]] }
    (runFull (fun _ => 0) (fun _ => false) s).1 = .growthCap ∧ (runFull (fun _ => 0) (fun _ => false) s).2.1 = 1 := by
  decide
example :
    let s : State := { Pushr.C15.emptyState with
      exec := [.list [.lit (.int 1), .lit (.int 2), .instr (.integer .add)]] }
    (runFull (fun _ => 0) (fun k => k == 2) s).1 = .timeLimit ∧ (runFull (fun _ => 0) (fun k => k == 2) s).2.1 = 2 := by
  decide
end examples

end Pushr.C02
