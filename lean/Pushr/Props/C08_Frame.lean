import Pushr.Props.C08
/-! # C08 (supplement) — CODE.INSERT changes nothing outside the replaced subtree

The tree is flattened to its token stream (`(`, `)`, atoms). Inserting `x` at a point index `1 ≤ d < size`
replaces exactly the token span of the `d`-th point by the tokens of `x`: everything before and everything after
is untouched. -/
namespace Pushr.C08
open Pushr

inductive Tk where
  | lp | rp
  | leaf (i : Item)

mutual
def flat : Item → List Tk
  | .list xs => .lp :: (flatL xs ++ [.rp])
  | .instr i => [.leaf (.instr i)]
  | .lit v => [.leaf (.lit v)]
  | .ident n => [.leaf (.ident n)]
def flatL : List Item → List Tk
  | [] => []
  | x :: xs => flat x ++ flatL xs
end

theorem ReplAt.flatL {old x : Item} {d : Nat} {xs xs' : List Item} (h : ReplAt old x d xs xs') :
    ∃ pre post, flatL xs = pre ++ flat old ++ post ∧ flatL xs' = pre ++ flat x ++ post := by
  induction h with
  | here cs => exact ⟨[], C08.flatL cs, by simp [C08.flatL], by simp [C08.flatL]⟩
  | down cs _ ih =>
    obtain ⟨p, q, h1, h2⟩ := ih
    exact ⟨.lp :: p, q ++ .rp :: C08.flatL cs, by simp [C08.flatL, flat, h1], by simp [C08.flatL, flat, h2]⟩
  | skip c _ ih =>
    obtain ⟨p, q, h1, h2⟩ := ih
    exact ⟨flat c ++ p, q, by simp [C08.flatL, h1], by simp [C08.flatL, h2]⟩

/-- **INSERT frame**: the point at `d` (call it `old`) occupies a token span `flat old` inside `flat t`; after the
insertion the stream is the same with that span replaced by `flat x` -/
theorem ins_frame (t x : Item) (d : Nat) (h1 : 1 ≤ d) (h2 : d < t.size) :
    ∃ t' old pre post, Item.ins t x d = .ok t' ∧ Item.trav t d = .ok old ∧
      flat t = pre ++ flat old ++ post ∧ flat t' = pre ++ flat x ++ post := by
  obtain ⟨d, rfl⟩ := Nat.exists_eq_add_of_le' h1
  obtain ⟨old, ys, ys', rfl, hi, hr⟩ := ins_replAt t x d h2
  obtain ⟨p, q, h1, h2⟩ := hr.flatL
  exact ⟨_, old, .lp :: p, q ++ [.rp], hi, hr.travL, by simp [flat, h1], by simp [flat, h2]⟩
theorem insL_frame (xs : List Item) (x : Item) (d : Nat) (h1 : 1 ≤ d) (h2 : d - 1 < Item.sizeL xs) :
    ∃ xs' old pre post, Item.insL xs x d = .ok xs' ∧ Item.travL xs d = .ok old ∧
      flatL xs = pre ++ flat old ++ post ∧ flatL xs' = pre ++ flat x ++ post := by
  obtain ⟨d, rfl⟩ := Nat.exists_eq_add_of_le' h1
  obtain ⟨old, xs', hi, hr⟩ := insL_replAt xs x d h2
  obtain ⟨p, q, h1, h2⟩ := hr.flatL
  exact ⟨xs', old, p, q, hi, hr.travL, h1, h2⟩

/-- every item has a token, so the span replaced by INSERT is never empty -/
theorem flat_length_size : ∀ (t : Item), (flat t).length ≥ 1 := by
  intro t; cases t <;> simp [flat]

/-- non-vacuity: point 4 of `( 1 2 ( 3 ) 4 )` is the atom `3` -/
example : ∃ t', Item.ins (.list [.lit (.int 1), .lit (.int 2), .list [.lit (.int 3)], .lit (.int 4)]) (.lit (.int 5)) 4 = .ok t'
    ∧ (flat t').length = 8 :=
  ⟨_, rfl, rfl⟩

end Pushr.C08
