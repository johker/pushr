import Pushr.StackImpl
import Pushr.StackSpec
import Pushr.Lemmas.ListRev
import Pushr.Lemmas.Rs
/-! # C16 — the generic stack container behaves like a plain sequence

Refinement: for every public method `m` of `PushStack` (Layer 0: a Vec with the top at the end and
`size - (i + 1)` index arithmetic that can panic), `m` never panics and commutes with the
abstraction `abs = reverse` to the corresponding operation of a plain sequence whose position 0 is
the top (Layer 1, `Pushr.Seq`). Stated for every element type, every stack and every argument.

Whatever the Vec does at index `size - (i + 1)` is what the sequence does at position `i`
(`slot_ok`, then `at_slot` for reading and removing, `set_slot` for writing); the methods are read off these. -/
namespace Pushr.C16
open Pushr

variable {α : Type}

def abs (s : PStack α) : List α := s.elements.reverse

theorem abs_length (s : PStack α) : (abs s).length = s.size := by simp [abs, PStack.size]

theorem abs_none (s : PStack α) (i : Nat) (h : ¬ i < s.size) : (abs s)[i]? = none :=
  List.getElem?_eq_none (by rw [abs_length]; omega)

theorem slot_ok (s : PStack α) (i : Nat) (h : i < s.size) : s.slot i = .ok (s.size - (i + 1)) := Usize.sub_ok h

theorem at_slot (s : PStack α) (i : Nat) (h : i < s.size) :
    ∃ x, (abs s)[i]? = some x ∧ RVec.idx s.elements (s.size - (i + 1)) = .ok x ∧
      RVec.remove s.elements (s.size - (i + 1)) = .ok (x, ((abs s).eraseIdx i).reverse) := by
  have hlt : s.size - (i + 1) < s.elements.length := by unfold PStack.size at *; omega
  have hx : s.elements[s.size - (i + 1)]? = some s.elements[s.size - (i + 1)] := List.getElem?_eq_getElem hlt
  refine ⟨_, (L.getElem?_reverse' s.elements i h).trans hx, RVec.idx_ok _ _ hlt, ?_⟩
  rw [RVec.remove_some hx, abs, ← L.reverse_eraseIdx _ _ h, List.reverse_reverse]; rfl

theorem set_slot (s : PStack α) (i : Nat) (x : α) (h : i < s.size) :
    RVec.set s.elements (s.size - (i + 1)) x = .ok ((abs s).set i x).reverse := by
  rw [RVec.set_ok (by unfold PStack.size at *; omega), abs, ← L.reverse_set _ _ _ h, List.reverse_reverse]
  rfl

theorem size_refines (s : PStack α) : s.size = (abs s).length := (abs_length s).symm

theorem get_refines (s : PStack α) (i : Nat) : s.get i = .ok (Seq.get (abs s) i) := by
  unfold PStack.get Seq.get
  by_cases h : i < s.size
  · obtain ⟨x, hx, hidx, _⟩ := at_slot s i h
    simp only [h, if_true, slot_ok, hidx, hx, bind, Except.bind]
  · rw [if_neg h, abs_none s i h]

theorem copy_refines (s : PStack α) (i : Nat) : s.copy i = .ok (Seq.get (abs s) i) := by
  rw [← get_refines]
  unfold PStack.copy PStack.get
  by_cases h0 : s.size = 0
  · simp [h0]
  · simp only [h0, beq_iff_eq, if_false, Usize.sub_ok (show 1 ≤ s.size by omega), bind, Except.bind]
    by_cases h : i < s.size
    · rw [if_neg (by omega), if_pos h]
    · rw [if_pos (by omega), if_neg h]

theorem out_of_range_is_none (s : PStack α) (i : Nat) (h : s.size ≤ i) :
    s.get i = .ok none ∧ s.copy i = .ok none := by
  rw [get_refines, copy_refines, Seq.get, abs_none s i (by omega)]; exact ⟨rfl, rfl⟩

theorem push_refines (s : PStack α) (x : α) : abs (s.push x) = Seq.push (abs s) x := by
  simp [abs, PStack.push, Seq.push]

theorem pushFront_refines (s : PStack α) (x : α) :
    (s.pushFront x).map abs = .ok (Seq.pushFront (abs s) x) := by
  simp [PStack.pushFront, RVec.insert_ok _ _ (Nat.zero_le _), bind, Except.bind, Except.map, abs, Seq.pushFront]

theorem pop_refines (s : PStack α) :
    (s.pop).1 = (Seq.pop (abs s)).1 ∧ abs (s.pop).2 = (Seq.pop (abs s)).2 := by
  unfold PStack.pop abs
  rcases List.eq_nil_or_concat s.elements with h | ⟨l, x, h⟩ <;> simp [h, Seq.pop]

theorem popFront_refines (s : PStack α) :
    (s.popFront).map (fun r => (r.1, abs r.2)) = .ok (Seq.popFront (abs s)) := by
  unfold PStack.popFront abs Seq.popFront
  cases h : s.elements with
  | nil => simp [Except.map, h]
  | cons x t =>
    simp [RVec.remove_some List.getElem?_cons_zero, bind, Except.bind, Except.map, List.getLast?_reverse]

theorem pushVec_refines (s : PStack α) (v : List α) : abs (s.pushVec v) = Seq.pushVec (abs s) v := by
  simp [abs, PStack.pushVec, Seq.pushVec]

theorem reverse_refines (s : PStack α) : abs s.reverse = Seq.reverse (abs s) := by
  simp [abs, PStack.reverse, Seq.reverse]

theorem flush_refines (s : PStack α) : abs s.flush = Seq.flush (abs s) := by
  simp [abs, PStack.flush, Seq.flush]

theorem bottom_refines (s : PStack α) : s.bottom = Seq.bottom (abs s) := by
  unfold PStack.bottom Seq.bottom abs PStack.size
  cases h : s.elements with
  | nil => simp
  | cons x t => simp [List.getLast?_reverse]

theorem lastEq_refines (eq : α → α → Bool) (s : PStack α) (x : α) :
    s.lastEq eq x = Seq.lastEq eq (abs s) x := by
  unfold PStack.lastEq Seq.lastEq abs
  rcases List.eq_nil_or_concat s.elements with h | ⟨l, y, h⟩ <;> simp [h]

theorem to_string_top_first (sh : α → String) (s : PStack α) :
    s.revStrings sh = Seq.strings sh (abs s) := by
  simp [PStack.revStrings, Seq.strings, abs]

theorem equalAt_refines (sh : α → String) (s : PStack α) (i : Nat) (el : α) :
    s.equalAt sh i el = .ok (Seq.equalAt sh (abs s) i el) := by
  unfold PStack.equalAt Seq.equalAt
  by_cases h : i < s.size
  · obtain ⟨x, hx, hidx, _⟩ := at_slot s i h
    simp only [show ¬ i ≥ s.size by omega, if_false, h, slot_ok, hidx, hx, bind, Except.bind]
  · rw [if_pos (by omega), abs_none s i h]

theorem remove_refines (s : PStack α) (i : Nat) :
    (s.remove i).map abs = .ok (Seq.remove (abs s) i) := by
  unfold PStack.remove Seq.remove
  by_cases h : i < s.size
  · obtain ⟨x, _, _, hrem⟩ := at_slot s i h
    simp only [h, if_true, slot_ok, hrem, bind, Except.bind, Except.map, abs, List.reverse_reverse]
  · rw [if_neg h, List.eraseIdx_of_length_le (by rw [abs_length]; omega)]; rfl

/-- `replace` reports the offset past the end (`i - size + 1`) instead of failing -/
theorem replace_refines (s : PStack α) (i : Nat) (x : α) :
    (s.replace i x).map (fun r => (r.1, abs r.2)) = .ok (Seq.replace (abs s) i x) := by
  unfold PStack.replace Seq.replace
  rw [abs_length]
  by_cases h : i < s.size
  · simp only [h, if_true, slot_ok, set_slot, bind, Except.bind, Except.map, abs, List.reverse_reverse]
  · simp only [h, if_false, Except.map]

theorem yank_refines (s : PStack α) (i : Nat) :
    (s.yank i).map abs = .ok (Seq.yank (abs s) i) := by
  unfold PStack.yank Seq.yank
  by_cases hi : i < s.size
  · obtain ⟨x, hx, _, hrem⟩ := at_slot s i hi
    rw [hx]
    by_cases h0 : i = 0
    · simp only [h0, Nat.lt_irrefl, false_and, if_false, if_true, Except.map]
    · simp only [show i > 0 by omega, hi, and_self, if_true, slot_ok, hrem, bind, Except.bind, Except.map,
        h0, if_false, abs, List.reverse_append, List.reverse_reverse, List.reverse_cons, List.reverse_nil,
        List.nil_append, List.singleton_append]
  · rw [if_neg (fun h => hi h.2), abs_none s i hi]; rfl

theorem shove_refines (s : PStack α) (i : Nat) :
    (s.shove i).map abs = .ok (Seq.shove (abs s) i) := by
  unfold PStack.shove Seq.shove
  rcases List.eq_nil_or_concat s.elements with h | ⟨l, x, h⟩
  · simp [h, abs, PStack.size, Except.map]
  · rw [List.concat_eq_append] at h
    have hsz : s.size = l.length + 1 := by simp [PStack.size, h]
    rw [show abs s = x :: l.reverse by simp [abs, h]]
    by_cases hc : i > 0 ∧ i < s.size
    · simp only [hc, and_self, if_true, show 0 < i ∧ i < (x :: l.reverse).length by simp; omega, h,
        List.getLast?_concat, List.dropLast_concat, Usize.sub_ok (show i ≤ l.length by omega), bind, Except.bind,
        RVec.insert_ok l x (show l.length - i ≤ l.length by omega), Except.map, abs, L.reverse_insert l i x (by omega)]
    · simp only [hc, if_false, show ¬ (0 < i ∧ i < (x :: l.reverse).length) by simp; omega, Except.map, abs, h,
        List.reverse_append, List.reverse_cons, List.reverse_nil, List.nil_append, List.singleton_append]

theorem popVec_refines (s : PStack α) (n : Nat) :
    (s.popVec n).map (fun r => (r.1, abs r.2)) = .ok (Seq.popVec (abs s) n) := by
  unfold PStack.popVec Seq.popVec
  rw [abs_length, PStack.size]
  by_cases h : n > s.elements.length
  · simp [h, Except.map]
  · simp only [h, if_false, Usize.sub_ok (Nat.le_of_not_lt h), bind, Except.bind, Except.map, abs]
    rw [L.reverse_take' s.elements n (by omega), ← L.reverse_drop' s.elements n (by omega), List.reverse_reverse]

/-- with `k` iterations left the loop stands at `i = n - k`: it returns what it has read, then the slots from
`size - n + i` on -/
theorem copyVecLoop_spec (s : PStack α) (n : Nat) (hn : n ≤ s.size) (k : Nat) (acc : List α) (hk : k ≤ n) :
    s.copyVecLoop n k acc = .ok (acc.reverse ++ s.elements.drop (s.size - n + (n - k))) := by
  induction k generalizing acc with
  | zero => rw [PStack.copyVecLoop, Nat.sub_zero, Nat.sub_add_cancel hn, PStack.size, List.drop_length, List.append_nil]
  | succ k ih =>
    have hlt : s.size - n + (n - (k + 1)) < s.elements.length := by show _ < s.size; omega
    simp only [PStack.copyVecLoop, Usize.sub_ok hn, bind, Except.bind, RVec.idx_ok _ _ hlt]
    rw [ih _ (by omega), List.reverse_cons, List.append_assoc, List.singleton_append,
      List.drop_eq_getElem_cons hlt, show s.size - n + (n - (k + 1)) + 1 = s.size - n + (n - k) by omega]

theorem copyVec_refines (s : PStack α) (n : Nat) :
    s.copyVec n = .ok (Seq.copyVec (abs s) n) := by
  unfold PStack.copyVec Seq.copyVec
  rw [abs_length]
  by_cases h : n > s.size
  · simp [h]
  · simp only [h, if_false, copyVecLoop_spec s n (by omega) n [] (Nat.le_refl n), bind, Except.bind,
      List.reverse_nil, List.nil_append, abs, Nat.sub_self, Nat.add_zero]
    rw [← L.reverse_drop' s.elements n (by unfold PStack.size at h; omega), List.reverse_reverse]; rfl

/-! non-vacuity: the Vec (top at the end) on concrete stacks, and one sequence (top first) -/
example : (⟨[1, 2, 3]⟩ : PStack Nat).yank 2 = .ok ⟨[2, 3, 1]⟩ := rfl
example : Seq.yank (abs (⟨[1, 2, 3]⟩ : PStack Nat)) 2 = [1, 3, 2] := by decide
example : (⟨[1, 2, 3]⟩ : PStack Nat).shove 2 = .ok ⟨[3, 1, 2]⟩ := rfl
example : (⟨[1, 2, 3]⟩ : PStack Nat).replace 5 9 = .ok (.error 3, ⟨[1, 2, 3]⟩) := rfl
example : (⟨[1, 2, 3]⟩ : PStack Nat).copyVec 2 = .ok (some [2, 3]) := rfl

end Pushr.C16
