import Pushr.Props.C18_Queries
/-! # C18 (supplement) — node and edge counts equal those of the set-based model -/
namespace Pushr.C18
open Pushr Pushr.Graph

def sumLen (m : List (Nat × List Edge)) : Nat := (m.map fun p => p.2.length).sum

theorem edgeSize_eq (g : Graph) : g.edgeSize = sumLen g.edges := rfl

/-- inserting into a sorted map adds the new entry in exchange for the one it displaces -/
theorem insertKey_sum {β : Type} (f : Nat × β → Nat) (k : Nat) (v : β) (m : List (Nat × β)) (hs : Sorted m) :
    ((insertKey k v m).map f).sum + (lookupKey k m).elim 0 (fun v0 => f (k, v0)) = (m.map f).sum + f (k, v) := by
  fun_induction insertKey k v m with
  | case1 => simp [lookupKey]
  | case2 k' v' t h1 =>
    -- `k` is below every key, so it is not there
    have hlt := (List.pairwise_cons.mp hs).1
    have : lookupKey k t = none := by
      cases hl : lookupKey k t with
      | none => rfl
      | some v0 => have : k' < k := hlt k (List.mem_map.mpr ⟨_, mem_of_lookup hl, rfl⟩); omega
    simp only [lookupKey, if_neg (Nat.ne_of_lt h1), this, Option.elim, List.map_cons, List.sum_cons]; omega
  | case3 v' t _ => simp only [lookupKey, if_true, Option.elim, List.map_cons, List.sum_cons]; omega
  | case4 k' v' t _ h2 ih =>
    have := ih (List.pairwise_cons.mp hs).2
    simp only [lookupKey, h2, if_false, List.map_cons, List.sum_cons]; omega

theorem edgeSize_setIn (g : Graph) (hs : Sorted g.edges) (d : Nat) (l : List Edge) :
    (setIn g d l).edgeSize + (inList g d).length = g.edgeSize + l.length := by
  have := insertKey_sum (fun p => p.2.length) d l g.edges hs
  unfold inList
  cases hl : lookupKey d g.edges <;> rw [hl] at this <;> exact this

theorem nodeSize_addNode (g : Graph) (hw : WF g) (id : Nat) (st : Int32) :
    (g.addNode id st).nodeSize = g.nodeSize + (if g.hasNode id then 0 else 1) := by
  have hlen : ∀ m : List (Nat × Int32), m.length = (m.map fun _ => 1).sum := fun m => by
    rw [List.map_const', List.sum_replicate_nat, Nat.mul_one]
  have := insertKey_sum (fun _ => 1) id st g.nodes hw.nodes
  simp only [nodeSize, addNode, hlen]
  split
  · next h => obtain ⟨s0, h0⟩ := Option.isSome_iff_exists.mp h; rw [h0] at this; exact Nat.add_right_cancel this
  · next h => rw [Option.not_isSome_iff_eq_none.mp h] at this; exact this

theorem edgeSize_addEdge (g : Graph) (hw : WF g) (o d : Nat) (w : Float32) :
    (g.addEdge o d w).edgeSize = g.edgeSize +
      (if g.hasNode o = true ∧ g.hasNode d = true ∧ g.getWeight o d = none then 1 else 0) := by
  rw [addEdge_eq]
  split
  · have := edgeSize_setIn g hw.edges d (inList g d ++ [⟨o, w⟩])
    rw [List.length_append, List.length_singleton] at this
    omega
  · rfl

/-- adding an edge that is already there changes NOTHING, whatever the weight -/
theorem addEdge_existing (g : Graph) (o d : Nat) (w : Float32) (h : (g.getWeight o d).isSome = true) :
    g.addEdge o d w = g := by
  rw [addEdge_eq, if_neg]
  intro hc; rw [hc.2.2] at h; cases h

end Pushr.C18
