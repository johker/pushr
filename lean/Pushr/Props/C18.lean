import Pushr.GraphSem
/-! # C18 — graph memory keeps its structure consistent and answers queries correctly

`GInv`: every edge connects two existing nodes and there is at most one edge per ordered node pair.
It holds for the empty graph and is preserved by every operation of the API, hence after any
sequence of operations. Stated through the *functional* view of the two maps (`lookupKey`).

The three edge operations all do the same thing: they replace the incoming list of one node
(`setIn`), or leave the graph alone (`addEdge_eq`, `removeEdge_eq`, `setWeight_eq`). What they keep
or change is read off `setIn` and the new list. -/
namespace Pushr.C18
open Pushr Pushr.Graph

theorem lookup_insert {β : Type} (k k' : Nat) (v : β) (m : List (Nat × β)) :
    lookupKey k' (insertKey k v m) = if k' = k then some v else lookupKey k' m := by
  -- the cases of `insertKey`: the empty map; `k` below the first key, equal to it, above it (the recursive one)
  fun_induction insertKey k v m with
  | case1 => rfl
  | case2 k2 v2 t _ => simp only [lookupKey]
  | case3 v2 t _ => simp only [lookupKey]; split <;> rfl
  | case4 k2 v2 t _ h2 ih =>
    simp only [lookupKey, ih]
    by_cases h : k' = k
    · subst h; simp [h2]
    · simp [h]

theorem lookup_eq_find {β : Type} (k : Nat) (m : List (Nat × β)) :
    lookupKey k m = (m.find? (·.1 == k)).map (·.2) := by
  induction m with
  | nil => rfl
  | cons p t ih =>
    rw [lookupKey, List.find?_cons, ih]
    by_cases h : k = p.1
    · rw [if_pos h, h, beq_self_eq_true]; rfl
    · rw [if_neg h, beq_false_of_ne (Ne.symm h)]

theorem lookup_filter_ne {β : Type} (id k : Nat) (m : List (Nat × β)) :
    lookupKey k (m.filter (·.1 != id)) = if k = id then none else lookupKey k m := by
  simp only [lookup_eq_find, List.find?_filter]
  split
  · next h => subst h; rw [List.find?_eq_none.mpr (by simp)]; rfl
  · next h => congr 2; funext p; by_cases hp : p.1 = k <;> simp [hp, h]

theorem lookup_map {β γ : Type} (f : Nat → β → γ) (k : Nat) (m : List (Nat × β)) :
    lookupKey k (m.map fun p => (p.1, f p.1 p.2)) = (lookupKey k m).map (f k) := by
  simp only [lookup_eq_find, List.find?_map, Option.map_map]
  -- the entry found has key `k`
  refine Option.map_congr fun p hp => ?_
  have := List.find?_some hp
  exact congrArg (f · p.2) (beq_iff_eq.mp this)

theorem lookup_append {β : Type} (k : Nat) (m m' : List (Nat × β)) :
    lookupKey k (m ++ m') = (lookupKey k m).or (lookupKey k m') := by
  simp only [lookup_eq_find, List.find?_append, Option.map_or]

theorem mem_of_lookup {β : Type} {k : Nat} {v : β} {m : List (Nat × β)} (h : lookupKey k m = some v) :
    (k, v) ∈ m := by
  rw [lookup_eq_find] at h
  obtain ⟨p, hp, rfl⟩ := Option.map_eq_some_iff.mp h
  have := List.find?_some hp
  rw [← beq_iff_eq.mp this]
  exact List.mem_of_find?_eq_some hp

theorem lookup_of_mem {β : Type} {k : Nat} {v : β} {m : List (Nat × β)} (hn : (m.map (·.1)).Nodup)
    (h : (k, v) ∈ m) : lookupKey k m = some v := by
  induction m with
  | nil => cases h
  | cons p t ih =>
    rw [List.map_cons, List.nodup_cons] at hn
    simp only [lookupKey]
    rcases List.mem_cons.mp h with rfl | ht
    · rw [if_pos rfl]
    · rw [if_neg fun hk => hn.1 (List.mem_map.mpr ⟨_, ht, hk⟩), ih hn.2 ht]

theorem insertKey_perm {β : Type} (k : Nat) (v : β) (m : List (Nat × β)) :
    ∃ m', m'.Sublist m ∧ (insertKey k v m).Perm ((k, v) :: m') := by
  fun_induction insertKey k v m with
  | case1 => exact ⟨[], .slnil, .refl _⟩
  | case2 k' v' t _ => exact ⟨_, .refl _, .refl _⟩
  | case3 v' t _ => exact ⟨t, List.sublist_cons_self _ t, .refl _⟩
  | case4 k' v' t _ _ ih =>
    obtain ⟨m', hs, hp⟩ := ih
    exact ⟨_ :: m', hs.cons_cons _, (hp.cons _).trans (.swap ..)⟩

def GInv (g : Graph) : Prop :=
  ∀ d l, lookupKey d g.edges = some l →
    (g.hasNode d = true ∧ ∀ e ∈ l, g.hasNode e.origin = true) ∧ (l.map (·.origin)).Nodup

theorem empty_inv : GInv Graph.empty := by
  intro d l h; simp [Graph.empty, lookupKey] at h

theorem inv_of_nodes {g g' : Graph} (h : GInv g) (he : g'.edges = g.edges)
    (hn : ∀ k, g.hasNode k = true → g'.hasNode k = true) : GInv g' := by
  intro d l hl
  obtain ⟨⟨h1, h2⟩, h3⟩ := h d l (he ▸ hl)
  exact ⟨⟨hn d h1, fun e he => hn _ (h2 e he)⟩, h3⟩

theorem hasNode_addNode (g : Graph) (id : Nat) (st : Int32) (k : Nat) :
    (g.addNode id st).hasNode k = (k == id || g.hasNode k) := by
  simp only [hasNode, addNode, lookup_insert]
  by_cases h : k = id <;> simp [h]

theorem setState_eq (g : Graph) (id : Nat) (st : Int32) :
    g.setState id st = if g.hasNode id then g.addNode id st else g := rfl

theorem hasNode_setState (g : Graph) (id : Nat) (st : Int32) (k : Nat) :
    (g.setState id st).hasNode k = g.hasNode k := by
  rw [setState_eq]
  split
  · next h =>
    rw [hasNode_addNode]
    by_cases hk : k = id
    · rw [hk, h]; simp
    · simp [hk]
  · rfl

theorem addNode_inv (g : Graph) (id : Nat) (st : Int32) (h : GInv g) : GInv (g.addNode id st) :=
  inv_of_nodes h rfl fun k hk => by rw [hasNode_addNode, hk, Bool.or_true]

theorem setState_inv (g : Graph) (id : Nat) (st : Int32) (h : GInv g) : GInv (g.setState id st) := by
  rw [setState_eq]; split
  · exact addNode_inv g id st h
  · exact h

def inList (g : Graph) (d : Nat) : List Edge := (lookupKey d g.edges).getD []

/-- an incoming list is itself a finite map, origin ↦ weight, read by `lookupKey` -/
def pairs (l : List Edge) : List (Nat × Float32) := l.map fun e => (e.origin, e.weight)

def wIn (l : List Edge) (o : Nat) : Option Float32 := lookupKey o (pairs l)

def setIn (g : Graph) (d : Nat) (l : List Edge) : Graph := { g with edges := insertKey d l g.edges }

theorem find_eq_wIn (l : List Edge) (o : Nat) : (l.find? (·.origin == o)).map (·.weight) = wIn l o := by
  rw [wIn, pairs, lookup_eq_find, List.find?_map, Option.map_map]; rfl

theorem getWeight_eq (g : Graph) (o d : Nat) : g.getWeight o d = wIn (inList g d) o := by
  unfold getWeight inList
  cases lookupKey d g.edges with
  | none => rfl
  | some l => exact find_eq_wIn l o

theorem wIn_isSome (l : List Edge) (o : Nat) : (wIn l o).isSome = l.any (fun e => e.origin == o) := by
  rw [← find_eq_wIn, Option.isSome_map, Bool.eq_iff_iff, List.find?_isSome, List.any_eq_true]

theorem wIn_none_iff (l : List Edge) (o : Nat) : wIn l o = none ↔ l.any (fun e => e.origin == o) = false := by
  rw [← wIn_isSome, Option.isSome_eq_false_iff, Option.isNone_iff_eq_none]

theorem wIn_append_single (l : List Edge) (o o' : Nat) (w : Float32) (h : wIn l o = none) :
    wIn (l ++ [(⟨o, w⟩ : Edge)]) o' = if o' = o then some w else wIn l o' := by
  unfold wIn pairs at *
  rw [List.map_append, lookup_append]
  simp only [List.map_cons, List.map_nil, lookupKey]
  split
  · next ho => rw [ho, h]; rfl
  · exact Option.or_none

theorem wIn_filter_ne (l : List Edge) (o o' : Nat) :
    wIn (l.filter (fun e => e.origin != o)) o' = if o' = o then none else wIn l o' := by
  have := lookup_filter_ne o o' (pairs l)
  rwa [pairs, List.filter_map] at this

theorem wIn_map_set (l : List Edge) (o o' : Nat) (w : Float32) :
    wIn (l.map fun e => if e.origin == o then (⟨o, w⟩ : Edge) else e) o'
      = if o' = o ∧ (wIn l o).isSome then some w else wIn l o' := by
  have hp : pairs (l.map fun e => if e.origin == o then (⟨o, w⟩ : Edge) else e)
      = (pairs l).map fun p => (p.1, if p.1 == o then w else p.2) := by
    simp only [pairs, List.map_map]
    refine List.map_congr_left fun e _ => ?_
    simp only [Function.comp]; split
    · next h => rw [beq_iff_eq.mp h]
    · rfl
  rw [wIn, hp, lookup_map (fun k v => if k == o then w else v)]
  by_cases ho : o' = o
  · subst ho; unfold wIn; cases lookupKey o' (pairs l) <;> simp
  · simp [ho, wIn]

theorem wIn_of_mem (l : List Edge) (hn : (l.map (·.origin)).Nodup) (e : Edge) (he : e ∈ l) :
    wIn l e.origin = some e.weight :=
  lookup_of_mem (by rwa [pairs, List.map_map]) (List.mem_map.mpr ⟨e, he, rfl⟩)

theorem mem_of_wIn {l : List Edge} {o : Nat} {w : Float32} (h : wIn l o = some w) :
    ∃ e ∈ l, e.origin = o ∧ e.weight = w := by
  obtain ⟨e, he, hp⟩ := List.mem_map.mp (mem_of_lookup h)
  cases hp; exact ⟨e, he, rfl, rfl⟩

theorem getWeight_setIn (g : Graph) (d : Nat) (l : List Edge) (o' d' : Nat) :
    (setIn g d l).getWeight o' d' = if d' = d then wIn l o' else g.getWeight o' d' := by
  simp only [getWeight_eq, inList, setIn, lookup_insert]; split <;> rfl

theorem inv_inList {g : Graph} (h : GInv g) (d : Nat) :
    (∀ e ∈ inList g d, g.hasNode e.origin = true) ∧ ((inList g d).map (·.origin)).Nodup := by
  unfold inList
  cases hl : lookupKey d g.edges with
  | none => simp
  | some l => exact ⟨(h d l hl).1.2, (h d l hl).2⟩

theorem setIn_inv {g : Graph} (h : GInv g) (d : Nat) (l : List Edge) (hd : g.hasNode d = true)
    (ho : ∀ e ∈ l, g.hasNode e.origin = true) (hn : (l.map (·.origin)).Nodup) : GInv (setIn g d l) := by
  intro d' l' hl'
  simp only [setIn, lookup_insert] at hl'
  split at hl'
  · next hdd => cases hl'; exact ⟨⟨hdd ▸ hd, ho⟩, hn⟩
  · exact h d' l' hl'

theorem addEdge_eq (g : Graph) (o d : Nat) (w : Float32) :
    g.addEdge o d w =
      if g.hasNode o = true ∧ g.hasNode d = true ∧ g.getWeight o d = none then setIn g d (inList g d ++ [⟨o, w⟩])
      else g := by
  simp only [addEdge, getWeight_eq, inList, wIn_none_iff, Bool.and_eq_true]
  cases lookupKey d g.edges with
  | none => by_cases hn : g.hasNode o = true ∧ g.hasNode d = true <;> simp [hn, setIn]
  | some l =>
    by_cases hn : g.hasNode o = true ∧ g.hasNode d = true <;>
    by_cases ha : l.any (fun e => e.origin == o) = true <;> simp [hn, ha, setIn]

theorem removeEdge_eq (g : Graph) (o d : Nat) :
    g.removeEdge o d =
      if (lookupKey d g.edges).isSome then setIn g d ((inList g d).filter (·.origin != o)) else g := by
  unfold removeEdge inList; cases lookupKey d g.edges <;> rfl

theorem setWeight_eq (g : Graph) (o d : Nat) (w : Float32) :
    g.setWeight o d w =
      if (g.getWeight o d).isSome then setIn g d ((inList g d).map fun e => if e.origin == o then ⟨o, w⟩ else e)
      else g := by
  simp only [setWeight, getWeight_eq, inList, wIn_isSome]
  cases lookupKey d g.edges <;> rfl

theorem addEdge_inv (g : Graph) (o d : Nat) (w : Float32) (h : GInv g) : GInv (g.addEdge o d w) := by
  rw [addEdge_eq]
  split
  · next hc =>
    obtain ⟨ho, hd, hw⟩ := hc
    obtain ⟨h2, h3⟩ := inv_inList h d
    rw [getWeight_eq, wIn_none_iff, List.any_eq_false] at hw
    refine setIn_inv h d _ hd (fun e he => ?_) ?_
    · rcases List.mem_append.mp he with he | he
      · exact h2 e he
      · cases List.mem_singleton.mp he; exact ho
    · rw [List.map_append, List.nodup_append]
      refine ⟨h3, by simp, fun a ha b hb hab => ?_⟩
      obtain ⟨e, he, rfl⟩ := List.mem_map.mp ha
      cases List.mem_singleton.mp hb
      exact hw e he (by simpa using hab)
  · exact h

theorem nodup_filter_map {α β : Type} {f : α → β} {p : α → Bool} {l : List α} (h : (l.map f).Nodup) :
    ((l.filter p).map f).Nodup :=
  h.sublist (List.filter_sublist.map f)

theorem removeEdge_inv (g : Graph) (o d : Nat) (h : GInv g) : GInv (g.removeEdge o d) := by
  rw [removeEdge_eq]
  split
  · next hs =>
    obtain ⟨l, hl⟩ := Option.isSome_iff_exists.mp hs
    exact setIn_inv h d _ (h d l hl).1.1 (fun e he => (inv_inList h d).1 e (List.mem_filter.mp he).1)
      (nodup_filter_map (inv_inList h d).2)
  · exact h

theorem setWeight_inv (g : Graph) (o d : Nat) (w : Float32) (h : GInv g) : GInv (g.setWeight o d w) := by
  rw [setWeight_eq]
  split
  · next hs =>
    obtain ⟨h2, h3⟩ := inv_inList h d
    have hd : g.hasNode d = true := by
      rw [getWeight_eq, inList] at hs
      cases hl : lookupKey d g.edges with
      | none => rw [hl] at hs; cases hs
      | some l => exact (h d l hl).1.1
    have hor : ∀ e : Edge, (if e.origin == o then (⟨o, w⟩ : Edge) else e).origin = e.origin := by
      intro e; split
      · next he => exact (beq_iff_eq.mp he).symm
      · rfl
    refine setIn_inv h d _ hd (fun e he => ?_) ?_
    · obtain ⟨e0, he0, rfl⟩ := List.mem_map.mp he
      rw [hor]; exact h2 e0 he0
    -- (`by exact`: `hor e` is elaborated once `rw` has found the mapped function)
    · rw [List.map_map, List.map_congr_left (g := (·.origin)) fun e _ => by exact hor e]; exact h3
  · exact h

theorem lookup_removeNode (g : Graph) (id d : Nat) :
    lookupKey d (g.removeNode id).edges
      = if d = id then none else (lookupKey d g.edges).map (·.filter (·.origin != id)) := by
  refine (lookup_map (fun _ (l : List Edge) => l.filter (·.origin != id)) d (g.edges.filter (·.1 != id))).trans ?_
  rw [lookup_filter_ne]; split <;> rfl

theorem removeNode_inv (g : Graph) (id : Nat) (h : GInv g) : GInv (g.removeNode id) := by
  intro d l hl
  rw [lookup_removeNode] at hl
  split at hl
  · cases hl
  · next hd =>
    obtain ⟨l0, hl0, rfl⟩ := Option.map_eq_some_iff.mp hl
    obtain ⟨⟨h1, h2⟩, h3⟩ := h d l0 hl0
    have hn : ∀ k, k ≠ id → g.hasNode k = true → (g.removeNode id).hasNode k = true := by
      intro k hk hh
      rw [hasNode, removeNode, lookup_filter_ne, if_neg hk]; exact hh
    refine ⟨⟨hn d hd h1, fun e he => ?_⟩, nodup_filter_map h3⟩
    have hm := List.mem_filter.mp he
    exact hn e.origin (by simpa using hm.2) (h2 e hm.1)

/-- which weight: `getWeight_addEdge` in `C18_Model` -/
theorem getWeight_after_add (g : Graph) (o d : Nat) (w : Float32) (ho : g.hasNode o = true)
    (hd : g.hasNode d = true) (hnew : g.getWeight o d = none) :
    ((g.addEdge o d w).getWeight o d).isSome = true := by
  rw [addEdge_eq, if_pos ⟨ho, hd, hnew⟩, getWeight_setIn, if_pos rfl, wIn_isSome]
  simp

/-- the state test of the queries -/
theorem keep_eq_some (g : Graph) (states : List Int32) (k k' : Nat) :
    (match g.getState k with
      | some st => if stateOk states st then some k else none
      | none => none) = some k' ↔ k = k' ∧ ∃ st, g.getState k' = some st ∧ stateOk states st = true := by
  constructor
  · intro h
    split at h
    · next st hst =>
      split at h
      · cases h; exact ⟨rfl, st, hst, ‹_›⟩
      · cases h
    · cases h
  · rintro ⟨rfl, st, hst, hok⟩
    simp only [hst, hok, if_true]

theorem predecessors_spec (g : Graph) (id : Nat) (states : List Int32) (k : Nat) :
    k ∈ g.predecessors id states ↔
      ∃ l, lookupKey id g.edges = some l ∧ ∃ e ∈ l, e.origin = k ∧
        ∃ st, g.getState k = some st ∧ stateOk states st = true := by
  unfold predecessors
  cases lookupKey id g.edges with
  | none => simp
  | some l =>
    simp only [List.mem_filterMap, Option.some.injEq, exists_eq_left']
    exact exists_congr fun e => and_congr_right fun _ => keep_eq_some g states e.origin k

/-- duplicating a graph takes a snapshot: a later change of the top graph produces a new value and
cannot alter the copy below it -/
theorem dup_is_snapshot (s : State) (l : List Graph) (g : Graph) (f : Graph → Graph)
    (h : s.graph.items = l ++ [g]) (hroom : s.graph.items.length < s.graph.cap) :
    (modGraphTop (semGraph .dup s) f).graph.getStack 1 = some g ∧
    (modGraphTop (semGraph .dup s) f).graph.getStack 0 = some (f g) := by
  have h0 : graphAt s 0 = some g := by simp [graphAt, Buf.getStack, h]
  have hr : l.length + 1 < s.graph.cap := by rw [h] at hroom; simpa using hroom
  simp only [semGraph, h0, Buf.push, modGraphTop, h]
  simp [Buf.getStack, hr]

/-! non-vacuity: the invariant holds of a graph with two nodes and one edge -/
example : GInv ((Graph.empty.addNode 1 0).addNode 2 5 |>.addEdge 1 2 0) :=
  addEdge_inv _ _ _ _ (addNode_inv _ _ _ (addNode_inv _ _ _ empty_inv))

end Pushr.C18
