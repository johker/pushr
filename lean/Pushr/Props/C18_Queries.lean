import Pushr.Props.C18_Model
/-! # C18 (supplement) — queries and the diff, against the set-based model

Predecessor, successor, neighbour and state-filter queries return exactly the model's node sets; the textual
diff is empty exactly when two snapshots have the same nodes, states, edges and weights. -/
namespace Pushr.C18
open Pushr Pushr.Graph

theorem hasEdge_iff (g : Graph) (o d : Nat) :
    (g.getWeight o d).isSome = true ↔ ∃ l, lookupKey d g.edges = some l ∧ ∃ e ∈ l, e.origin = o := by
  rw [getWeight_eq, wIn_isSome, List.any_eq_true, inList]
  cases lookupKey d g.edges <;> simp

theorem predecessors_iff (g : Graph) (id : Nat) (states : List Int32) (k : Nat) :
    k ∈ g.predecessors id states ↔
      (g.getWeight k id).isSome = true ∧ ∃ st, g.getState k = some st ∧ stateOk states st = true := by
  rw [predecessors_spec, hasEdge_iff]
  constructor
  · rintro ⟨l, hl, e, he, heo, st, hst, hok⟩
    exact ⟨⟨l, hl, e, he, heo⟩, st, hst, hok⟩
  · rintro ⟨⟨l, hl, e, he, heo⟩, st, hst, hok⟩
    exact ⟨l, hl, e, he, heo, st, hst, hok⟩

theorem successors_iff (g : Graph) (hs : Sorted g.edges) (id : Nat) (states : List Int32) (k : Nat) :
    k ∈ g.successors id states ↔
      (g.getWeight id k).isSome = true ∧ ∃ st, g.getState k = some st ∧ stateOk states st = true := by
  rw [hasEdge_iff]
  unfold successors
  simp only [List.mem_filterMap, Option.ite_none_right_eq_some, List.any_eq_true, beq_iff_eq]
  constructor
  · rintro ⟨⟨d, l⟩, hmem, hany, hk⟩
    obtain ⟨rfl, r⟩ := (keep_eq_some g states d k).mp hk
    exact ⟨⟨l, (mem_iff_lookup g.edges hs d l).mp hmem, hany⟩, r⟩
  · rintro ⟨⟨l, hl, hany⟩, r⟩
    exact ⟨(k, l), (mem_iff_lookup g.edges hs k l).mpr hl, hany, (keep_eq_some g states k k).mpr ⟨rfl, r⟩⟩

/-- NEIGHBORS is predecessors followed by successors -/
theorem neighbors_iff (g : Graph) (hs : Sorted g.edges) (id : Nat) (states : List Int32) (k : Nat) :
    k ∈ g.predecessors id states ++ g.successors id states ↔
      ((g.getWeight k id).isSome = true ∨ (g.getWeight id k).isSome = true) ∧
        ∃ st, g.getState k = some st ∧ stateOk states st = true := by
  rw [List.mem_append, predecessors_iff, successors_iff g hs, or_and_right]

/-- `filter`: the query behind GRAPH.NODES -/
theorem filter_iff (g : Graph) (hs : Sorted g.nodes) (states : List Int32) (k : Nat) :
    k ∈ g.filter states ↔ ∃ st, g.getState k = some st ∧ stateOk states st = true := by
  -- what one entry `(id, st)` contributes: `id` when `st` passes, once per listing of `st`
  have entry : ∀ id st, k ∈ (if states.isEmpty then [id] else (states.filter (· == st)).map fun _ => id) ↔
      k = id ∧ stateOk states st = true := by
    intro id st
    unfold stateOk
    split
    · next he => simp [he]
    · next he =>
      simp only [List.mem_map, List.mem_filter, beq_iff_eq, he, Bool.false_or, List.contains_iff_mem]
      constructor
      · rintro ⟨a, ⟨ha, rfl⟩, rfl⟩; exact ⟨rfl, ha⟩
      · rintro ⟨rfl, ha⟩; exact ⟨st, ⟨ha, rfl⟩, rfl⟩
  unfold Graph.filter getState
  simp only [List.mem_flatMap]
  constructor
  · rintro ⟨⟨id, st⟩, hmem, hx⟩
    obtain ⟨rfl, hok⟩ := (entry id st).mp hx
    exact ⟨st, (mem_iff_lookup g.nodes hs k st).mp hmem, hok⟩
  · rintro ⟨st, hst, hok⟩
    exact ⟨(k, st), (mem_iff_lookup g.nodes hs k st).mpr hst, (entry k st).mpr ⟨rfl, hok⟩⟩

/-- the two edge maps agree at one ordered pair (weights under `f32 ==`) -/
def EdgeAgree (x y : Option Float32) : Prop :=
  match x, y with
  | some w, some w' => (w == w') = true
  | none, none => True
  | _, _ => False

theorem getWeight_of_mem (g : Graph) (h : WF g) (d : Nat) (l : List Edge) (hm : (d, l) ∈ g.edges) (e : Edge)
    (he : e ∈ l) : g.getWeight e.origin d = some e.weight := by
  have hl := (mem_iff_lookup g.edges h.edges d l).mp hm
  rw [getWeight_eq, inList, hl]
  exact wIn_of_mem l (h.inv d l hl).2 e he

theorem getWeight_some_mem (g : Graph) (o d : Nat) (w : Float32) (hw : g.getWeight o d = some w) :
    ∃ l, (d, l) ∈ g.edges ∧ ∃ e ∈ l, e.origin = o ∧ e.weight = w := by
  rw [getWeight_eq, inList] at hw
  cases hl : lookupKey d g.edges with
  | none => rw [hl] at hw; cases hw
  | some l => rw [hl] at hw; exact ⟨l, mem_of_lookup hl, mem_of_wIn hw⟩

/-- in a well-formed graph the stored edges are exactly the ordered pairs that have a weight -/
theorem forall_edges_iff (g : Graph) (h : WF g) (P : Nat → Nat → Float32 → Prop) :
    (∀ d l, (d, l) ∈ g.edges → ∀ e ∈ l, P e.origin d e.weight) ↔ ∀ o d w, g.getWeight o d = some w → P o d w := by
  constructor
  · intro hp o d w hw
    obtain ⟨l, hm, e, he, rfl, rfl⟩ := getWeight_some_mem g o d w hw
    exact hp d l hm e he
  · intro hp d l hm e he
    exact hp _ _ _ (getWeight_of_mem g h d l hm e he)

/-- **the textual diff is empty exactly when the two snapshots are the same graph**: `Graph::diff` returns
`None` (`sameAs`) iff the node maps (ids and states) are equal and the edge maps agree at every ordered pair —
same edges, weights equal under `f32 ==` -/
theorem sameAs_iff (a b : Graph) (ha : WF a) (hb : WF b) :
    a.sameAs b = true ↔ a.nodes = b.nodes ∧ ∀ o d, EdgeAgree (a.getWeight o d) (b.getWeight o d) := by
  -- `sameAs` loops over the stored edges of `a`, then of `b`; `forall_edges_iff` turns each loop into a statement
  -- about all ordered pairs
  have h1 := forall_edges_iff a ha fun o d w =>
    (match b.getWeight o d with | some w' => w == w' | none => false) = true
  have h2 := forall_edges_iff b hb fun o d _ => (a.getWeight o d).isSome = true
  simp only [sameAs, Bool.and_eq_true, beq_iff_eq, List.all_eq_true, Prod.forall, and_assoc]
  refine and_congr_right fun _ => (and_congr h1 h2).trans ?_
  -- both sides speak of the two weight maps, one ordered pair at a time
  rw [← forall_and]; refine forall_congr' fun o => ?_
  rw [← forall_and]; refine forall_congr' fun d => ?_
  rw [← forall_and]
  cases a.getWeight o d <;> cases b.getWeight o d <;> simp [EdgeAgree]

/-- GRAPH.PRINT*DIFF pushes a text exactly when the two newest snapshots differ -/
theorem printDiff_pushes_iff (s : State) (new old : Graph) (h0 : graphAt s 0 = some new) (h1 : graphAt s 1 = some old) :
    (semGraph .printDiff s).name = (if old.sameAs new then s.name else "?" :: s.name) := by
  simp only [semGraph, h0, h1]
  split <;> simp [pushName]

/-- non-vacuity: a graph with two nodes and one edge is well-formed -/
example : WF ((Graph.empty.addNode 1 0).addNode 2 5 |>.addEdge 1 2 0) :=
  wf_addEdge _ _ _ _ (wf_addNode _ _ _ (wf_addNode _ _ _ wf_empty))

end Pushr.C18
