import Pushr.Props.C07
import Pushr.Props.C10
/-! # C07 (supplement) — no instruction but NAME.QUOTE touches the quote flag

A corollary of C10's frame theorem; that the next encountered name clears it is `C07.quoted_name_goes_to_name_stack`. -/
namespace Pushr.C07
open Pushr

/-- **only NAME.QUOTE sets the quote flag and no instruction clears it**: executing any other instruction —
NAME.FLUSH, NAME.POP, a DEFINE, anything — leaves a pending quote pending, so the flag reaches "exactly the
next encountered name" -/
theorem quote_flag_only_quote (ρ : Oracle) (i : Instr) (s : State) (h : i ≠ .name .quote) :
    (semFull ρ i s).quote = s.quote :=
  C10.frame ρ i s .quote (C10.quote_notin_footprint i h)

/-- for literals and lists see `quote_survives_literal`, `quote_survives_list` -/
theorem quote_survives_instr (ρ : Oracle) (i : Instr) (s : State) (e : List Item) (h : s.exec = .instr i :: e)
    (hi : i ≠ .name .quote) : (stepFull ρ s).2.quote = s.quote := by
  simp only [stepFull, step, h]
  exact quote_flag_only_quote ρ i _ hi

end Pushr.C07
