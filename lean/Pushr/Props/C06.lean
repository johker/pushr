import Pushr.Spec.C06
import Pushr.Props.C02
import Pushr.Full
/-! # C06 — control flow runs code in the documented order, the documented number of times -/
namespace Pushr.C06
open Pushr

variable (X : Ext) (ρ : Oracle)

theorem step_list (s : State) (xs e : List Item) (h : s.exec = .list xs :: e) :
    step X ρ s = (false, { s with exec := xs ++ e }) := by
  unfold step; rw [h]

theorem step_instr (s : State) (i : Instr) (e : List Item) (h : s.exec = .instr i :: e) :
    step X ρ s = (false, sem X ρ i { s with exec := e }) := by
  unfold step; rw [h]

theorem reaches_trans {s s1 s2 : State} (h1 : ∃ k, stepN X ρ k s = s1) (h2 : ∃ k, stepN X ρ k s1 = s2) :
    ∃ k, stepN X ρ k s = s2 := by
  obtain ⟨a, rfl⟩ := h1
  obtain ⟨b, rfl⟩ := h2
  exact ⟨a + b, C02.stepN_add X ρ a b s⟩

/-- every combinator of the table does exactly what the documentation prescribes -/
theorem ctrl_sound (i : Instr) (s s' : State) (h : ctrlSpec i s = some s') : sem X ρ i s = s' := by
  cases s
  unfold ctrlSpec at h
  split at h
  all_goals first | cases h | (dsimp only at h; split at h <;> cases h)
  -- operands present: the split has put them into the state, and the model computes the prescribed one
  all_goals try rfl
  -- operands lacking (the table's `_ => some s` rows): the model's own match takes its wildcard as well; in its operand
  -- branches the table's split has left `∀ …, stack = pattern → False`, which `apply_assumption` finds
  all_goals
    dsimp only [sem, semExec, semCode, semStk, stkOp, Lens.exec]
    split <;> first | rfl | (exfalso; apply_assumption; rfl)

/-- the frame contract of a loop body: from EXEC = `b :: E` and loop index `(c, n)` on top of
INDEX, some number of steps later EXEC = `E`, the INDEX stack is as before and the rest of the
state is `f c` of what it was. (A body that pops the loop's own index is outside the contract.) -/
def BodyOk (b : Item) (f : Nat → State → State) : Prop :=
  ∀ (E : List Item) (c n : Nat) (I : List (Nat × Nat)) (d : State),
    ∃ k, stepN X ρ k (withEI d (b :: E) ((c, n) :: I)) = withEI (f c d) E ((c, n) :: I)

def loopI : Item := .instr (.exec .loop)

theorem exec_loop_runs (b : Item) (f : Nat → State → State) (hb : BodyOk X ρ b f) :
    ∀ (m c n : Nat), c + m = n → ∀ (E : List Item) (I : List (Nat × Nat)) (d : State),
      ∃ k, stepN X ρ k (withEI d (loopI :: b :: E) ((c, n) :: I)) = withEI (iter f c m d) E I := by
  intro m
  induction m with
  | zero =>
    intro c n h E I d
    refine ⟨1, ?_⟩
    have hlt : ¬ c < n := by omega
    simp [stepN, step, withEI, loopI, sem, semExec, hlt, iter]
  | succ m ih =>
    intro c n h E I d
    have hlt : c < n := by omega
    -- one step arms the body, the body runs, two steps re-arm the loop with the index advanced
    refine reaches_trans X ρ ⟨1, ?_⟩ (reaches_trans X ρ
      (hb (.list [.instr (.index .increase), loopI, b] :: E) c n I d) (reaches_trans X ρ ⟨2, ?_⟩
      (by simpa [iter] using ih (c + 1) n (by omega) E I (f c d))))
    · simp [stepN, step, withEI, loopI, sem, semExec, hlt, instr]
    · simp [stepN, step, withEI, loopI, sem, semIndex, hlt]

/-- `( n INDEX.DEFINE EXEC.LOOP b )`-style use: from a fresh index `(0, n)` the body runs exactly `n`
times with INDEX.CURRENT = 0 … n-1 in order, and no index or loop code is left behind -/
theorem exec_loop_runs_n (b : Item) (f : Nat → State → State) (hb : BodyOk X ρ b f) (n : Nat)
    (E : List Item) (I : List (Nat × Nat)) (d : State) :
    ∃ k, stepN X ρ k (withEI d (loopI :: b :: E) ((0, n) :: I)) = withEI (iter f 0 n d) E I :=
  exec_loop_runs X ρ b f hb n 0 n (by omega) E I d

/-- the contract is satisfiable -/
theorem index_current_bodyOk :
    BodyOk X ρ (.instr (.index .current)) (fun c d => { d with int := lenI32 c :: d.int }) := by
  intro E c n I d
  exact ⟨1, by simp [stepN, step, withEI, sem, semIndex, pushInt]⟩

/-- with `iter_index_current_int`: `EXEC.LOOP INDEX.CURRENT` under index `(0, n)` pushes 0, 1, …, n-1 in this order -/
theorem exec_loop_index_current (n : Nat) (E : List Item) (I : List (Nat × Nat)) (d : State) :
    ∃ k, stepN X ρ k (withEI d (loopI :: .instr (.index .current) :: E) ((0, n) :: I))
      = withEI (iter (fun c d => { d with int := lenI32 c :: d.int }) 0 n d) E I :=
  exec_loop_runs_n X ρ _ _ (index_current_bodyOk X ρ) n E I d

theorem iter_index_current_int (n c : Nat) (d : State) :
    (iter (fun c d => { d with int := lenI32 c :: d.int }) c n d).int
      = ((List.range n).map fun j => lenI32 (c + j)).reverse ++ d.int := by
  induction n generalizing c d with
  | zero => rfl
  | succ n ih =>
    -- the first round pushes `lenI32 c`, the others are the statement for `c + 1`
    rw [iter, ih, List.range_succ_eq_map, List.map_cons, List.map_map, List.reverse_cons, List.append_assoc]
    simp only [Function.comp_def, Nat.add_right_comm c 1, Nat.add_assoc c]
    rfl

/-- loops nest: a whole `EXEC.LOOP` over a contract-respecting body, preceded by pushing its own
index, again respects the contract of an enclosing loop -/
theorem loop_satisfies_BodyOk (b : Item) (f : Nat → State → State) (hb : BodyOk X ρ b f) (m : Nat) :
    BodyOk X ρ (.list [.lit (.index 0 m), loopI, b]) (fun _ d => iter f 0 m d) := by
  intro E c n I d
  refine reaches_trans X ρ ⟨2, ?_⟩ (exec_loop_runs_n X ρ b f hb m E ((c, n) :: I) d)
  simp [stepN, step, withEI, pushLit]

def BodyOkV (b : Item) (f : Int32 → State → State) : Prop :=
  ∀ (E : List Item) (x : Int32) (d : State),
    ∃ k, stepN X ρ k { d with exec := b :: E, int := x :: d.int } = { f x d with exec := E }

def vloopI : Item := .instr (.vec .i .loop)

/-- INTVECTOR.LOOP executes a contract-respecting body once per element, in element order, with
that element on the INTEGER stack, and leaves no vector or loop code behind -/
theorem intvector_loop_runs (b : Item) (f : Int32 → State → State) (hb : BodyOkV fullExt ρ b f)
    (hf : ∀ x d, (f x d).ivec = d.ivec) :
    ∀ (v : List Int32) (V : List (List Int32)) (E : List Item) (d : State), d.ivec = V →
      ∃ k, stepN fullExt ρ k { d with exec := vloopI :: b :: E, ivec := v :: V }
        = { (v.foldl (fun d x => f x d) d) with exec := E } := by
  intro v
  induction v with
  | nil =>
    intro V E d hd
    refine ⟨1, ?_⟩
    subst hd
    simp [stepN, step, vloopI, sem, fullExt, semVec, semVecI]
  | cons x rest ih =>
    intro V E d hd
    have hV : (f x d).ivec = V := by rw [hf, hd]
    subst hd
    -- one step pops `x` and re-arms the loop on `rest` below the body, the body runs, two steps bring `rest` back
    refine reaches_trans fullExt ρ ⟨1, ?_⟩ (reaches_trans fullExt ρ
      (hb (.list [.lit (.ivec rest), vloopI, b] :: E) x d) (reaches_trans fullExt ρ ⟨2, ?_⟩ (ih _ E (f x d) hV)))
    · simp [stepN, step, vloopI, sem, fullExt, semVec, semVecI]
    · simp [stepN, step, pushLit, hV]

/-! ## CODE.LOOP (known finding K01)

The full statement — CODE.LOOP executes its body exactly destination-many times and leaves no
index or loop code behind — is FALSE on the pinned tree: the re-armed list
`( INDEX.INCREASE CODE.LOOP body )` leaves the body on EXEC and makes the next CODE.LOOP pop an
unrelated CODE item. The shape is asserted by a unit test, so it is recorded, not repaired. -/

/-- proved part: with the index already at its destination CODE.LOOP removes the body and the index -/
theorem code_loop_runs_n_partial (s : State) (body : Item) (cl : List Item) (n : Nat)
    (I : List (Nat × Nat)) (hc : s.code = body :: cl) (hi : s.index = (n, n) :: I) :
    sem fullExt ρ (.code .loop) s = { s with code := cl, index := I } := by
  simp only [sem, semCode, hc, hi, Nat.lt_irrefl, if_false]

/-- witness `( CODE.QUOTE INDEX.CURRENT 3 INDEX.DEFINE CODE.LOOP )`: the run ends with the index
`1/3` still on the INDEX stack and the body executed twice, not three times -/
def k01Witness : State :=
  { (default : State) with
    exec := [.instr (.code .quote), .instr (.index .current), .lit (.int 3), .instr (.index .define),
             .instr (.code .loop)] }

theorem k01_code_loop_violates :
    (stepN fullExt (fun _ => 0) 40 k01Witness).exec = [] ∧
    (stepN fullExt (fun _ => 0) 40 k01Witness).index = [(1, 3)] ∧
    (stepN fullExt (fun _ => 0) 40 k01Witness).int.length = 2 := by
  decide

end Pushr.C06
