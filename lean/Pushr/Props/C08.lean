import Pushr.Sem
import Pushr.Spec.C08
import Pushr.Lemmas.Tree
/-! # C08 — CODE list surgery is coherent with depth-first point indexing

`Item.points t` is the list of all points of `t` in depth-first order (the whole item is point 0).
Theorems, for every tree: SIZE = number of points; EXTRACT at `i` yields `points[i]`; the
normalised index is always in range; INSERT at `i` makes EXTRACT at `i` yield the inserted item (that nothing
outside the replaced subtree changes is `ins_frame` in `C08_Frame`); POSITION is sound, complete and minimal.

`trav`, `ins` and `pos` thread an index through the children: `trav` and `pos` get one mutual induction each, which
states them over `Item.points` (`trav_spec`, `pos_eq_findIdx?`), `ins` two (`ins_beyond` beyond the tree, `ins_replAt`
inside it, over `ReplAt`). Then: CONS / LIST / APPEND keep the atoms, the closed-form rows of `Spec/C08.expect`
(`expect_sound`, `expect_subst_sound`), SUBST, CONTAINER and DISCREPANCY against the list structure. -/
namespace Pushr.C08
open Pushr

theorem size_pos (t : Item) : 1 ≤ t.size := by cases t <;> simp [Item.size]

theorem points_length (t : Item) : (Item.points t).length = t.size := by
  induction t using Item.induct with
  | list xs ih =>
    simp only [Item.points, Item.size, Item.pointsL_eq_flatMap, Item.sizeL_eq_sum, List.length_cons, List.length_flatMap,
      List.map_congr_left ih, Nat.add_comm]
  | _ => rfl
theorem pointsL_length (xs : List Item) : (Item.pointsL xs).length = Item.sizeL xs := by
  simp only [Item.pointsL_eq_flatMap, Item.sizeL_eq_sum, List.length_flatMap, points_length]

theorem pointsL_append (xs ys : List Item) : Item.pointsL (xs ++ ys) = Item.pointsL xs ++ Item.pointsL ys := by
  simp only [Item.pointsL_eq_flatMap, List.flatMap_append]

theorem mem_points_self (t : Item) : t ∈ Item.points t := by cases t <;> simp [Item.points]

theorem mem_points_list {q : Item} {xs : List Item} :
    q ∈ Item.points (.list xs) ↔ q = .list xs ∨ ∃ x ∈ xs, q ∈ Item.points x := by
  simp only [Item.points, Item.pointsL_eq_flatMap, List.mem_cons, List.mem_flatMap]

theorem forall_mem_points {Q : Item → Prop} (hQ : ∀ xs, Q (.list xs) → ∀ x ∈ xs, Q x) (t : Item) (h : Q t) :
    ∀ q ∈ Item.points t, Q q := by
  induction t using Item.induct with
  | list xs ih =>
    intro q hq
    rcases mem_points_list.mp hq with rfl | ⟨x, hx, hq⟩
    · exact h
    · exact ih x hx (hQ xs h x hx) q hq
  | _ =>
    intro q hq
    cases List.mem_singleton.mp hq
    exact h
theorem forall_mem_pointsL {Q : Item → Prop} (hQ : ∀ xs, Q (.list xs) → ∀ x ∈ xs, Q x) (xs : List Item)
    (h : ∀ x ∈ xs, Q x) : ∀ q ∈ Item.pointsL xs, Q q := fun q hq =>
  have ⟨x, hx, hq⟩ := List.mem_flatMap.mp (Item.pointsL_eq_flatMap xs ▸ hq)
  forall_mem_points hQ x (h x hx) q hq

/-- CODE.EXTRACT normalises its index into `[0, size)`: the traversal can never run off the tree -/
theorem extract_index_lt (i : Int32) (t : Item) : remEuclid i t.size < t.size := by
  unfold remEuclid
  have h : (0 : Int) < (t.size : Int) := by have := size_pos t; omega
  have := Int.emod_lt_of_pos i.toInt h
  have := Int.emod_nonneg i.toInt (Int.ne_of_gt h)
  omega

/-! ## EXTRACT: the traversal is indexing into the points -/

mutual
theorem trav_spec (t : Item) (d : Nat) :
    Item.trav t d = ((Item.points t)[d]?).elim (.error (d + 1 - t.size)) .ok := by
  cases d with
  | zero => cases t <;> rfl
  | succ d =>
    cases t with
    | list xs =>
      simp only [Item.trav, travL_spec xs d, Item.points, List.getElem?_cons_succ, Item.size, Nat.add_comm 1,
        Nat.add_sub_add_right]
    | _ => rfl
/-- `travL xs (d + 1)` addresses point `d` of `pointsL xs`: the enclosing list has counted itself as point 0 -/
theorem travL_spec (xs : List Item) (d : Nat) :
    Item.travL xs (d + 1) = ((Item.pointsL xs)[d]?).elim (.error (d + 1 - Item.sizeL xs)) .ok := by
  cases xs with
  | nil => rfl
  | cons x xs =>
    simp only [Item.travL, trav_spec x d, Item.pointsL, List.getElem?_append, points_length, Item.sizeL]
    by_cases h : d < x.size
    · simp [h, List.getElem?_eq_getElem (points_length x ▸ h)]
    · have hle := Nat.le_of_not_lt h
      simp only [h, if_false, List.getElem?_eq_none (points_length x ▸ hle), Option.elim_none, Nat.sub_add_eq,
        Nat.sub_add_comm hle, travL_spec xs (d - x.size)]
end

theorem trav_err (t : Item) (d : Nat) (h : t.size ≤ d) : Item.trav t d = .error (d - t.size + 1) := by
  rw [trav_spec, List.getElem?_eq_none (points_length t ▸ h), Nat.sub_add_comm h]; rfl
theorem travL_err (xs : List Item) (d : Nat) (h0 : 1 ≤ d) (h : Item.sizeL xs ≤ d - 1) :
    Item.travL xs d = .error (d - Item.sizeL xs) := by
  obtain ⟨d, rfl⟩ := Nat.exists_eq_add_of_le' h0
  rw [travL_spec, List.getElem?_eq_none (pointsL_length xs ▸ h)]; rfl

theorem trav_eq_points (t : Item) (d : Nat) (h : d < t.size) : (Item.trav t d).toOption = (Item.points t)[d]? := by
  rw [trav_spec]; cases (Item.points t)[d]? <;> rfl
theorem travL_eq_points (xs : List Item) (d : Nat) (h0 : 1 ≤ d) (h : d - 1 < Item.sizeL xs) :
    (Item.travL xs d).toOption = (Item.pointsL xs)[d - 1]? := by
  obtain ⟨d, rfl⟩ := Nat.exists_eq_add_of_le' h0
  rw [travL_spec, Nat.add_sub_cancel]; cases (Item.pointsL xs)[d]? <;> rfl

/-- CODE.EXTRACT at index `i` yields the `i`-th point in depth-first order (index normalised) -/
theorem extract_eq_points (t : Item) (i : Int32) :
    (Item.trav t (remEuclid i t.size)).toOption = (Item.points t)[remEuclid i t.size]? :=
  trav_eq_points t _ (extract_index_lt i t)

theorem mem_points_of_trav {t r : Item} {d : Nat} (h : Item.trav t d = .ok r) : r ∈ Item.points t := by
  rw [trav_spec] at h
  cases hq : (Item.points t)[d]? <;> rw [hq] at h <;> cases h
  exact List.mem_of_getElem? hq

theorem code_size_counts_points (rc : Oracle → State → Nat → Option (Item × Nat)) (ρ : Oracle) (s : State)
    (c : Item) (l : List Item) (h : s.code = c :: l) :
    semCode rc ρ .size s = { s with int := lenI32 (Item.points c).length :: s.int } := by
  cases s
  cases h; rw [points_length]; rfl

mutual
theorem ins_beyond (t x : Item) (k : Nat) : Item.ins t x (t.size + k) = .error (k + 1) := by
  cases t with
  | list xs => rw [Item.size, Nat.add_comm 1, Nat.add_right_comm, Item.ins, insL_beyond]
  | _ => rw [Nat.add_comm]; rfl
theorem insL_beyond (xs : List Item) (x : Item) (k : Nat) :
    Item.insL xs x (Item.sizeL xs + k + 1) = .error (k + 1) := by
  cases xs with
  | nil => rw [Item.sizeL, Nat.zero_add, Item.insL]
  | cons c cs =>
    rw [Item.sizeL, Item.insL, if_neg (by have := size_pos c; omega), Nat.add_assoc, ins_beyond]
    simp only [insL_beyond cs x k]
end

theorem ins_err (t x : Item) (d : Nat) (h : t.size ≤ d) : Item.ins t x d = .error (d - t.size + 1) := by
  obtain ⟨k, rfl⟩ := Nat.exists_eq_add_of_le h
  rw [ins_beyond, Nat.add_sub_cancel_left]
theorem insL_err (xs : List Item) (x : Item) (d : Nat) (h0 : 1 ≤ d) (h : Item.sizeL xs ≤ d - 1) :
    Item.insL xs x d = .error (d - Item.sizeL xs) := by
  obtain ⟨k, hk⟩ := Nat.exists_eq_add_of_le h
  obtain rfl : d = Item.sizeL xs + k + 1 := by omega
  rw [insL_beyond, Nat.add_assoc, Nat.add_sub_cancel_left]

/-! ## INSERT replaces one point

`ReplAt old x d xs xs'`: among the points of the item list `xs` the one with index `d` is `old`, and `xs'` is `xs`
with this one occurrence replaced by `x`. The constructors follow the search of `insL`; everything INSERT does or
preserves is an induction over this relation. -/

inductive ReplAt (old x : Item) : Nat → List Item → List Item → Prop
  | here (cs : List Item) : ReplAt old x 0 (old :: cs) (x :: cs)
  | down (cs : List Item) {ys ys' : List Item} {d : Nat} : ReplAt old x d ys ys' →
      ReplAt old x (d + 1) (.list ys :: cs) (.list ys' :: cs)
  | skip (c : Item) {cs cs' : List Item} {d : Nat} : ReplAt old x d cs cs' → ReplAt old x (c.size + d) (c :: cs) (c :: cs')

mutual
theorem ins_replAt (t x : Item) (d : Nat) (h : d + 1 < t.size) :
    ∃ old ys ys', t = .list ys ∧ Item.ins t x (d + 1) = .ok (.list ys') ∧ ReplAt old x d ys ys' := by
  cases t with
  | list ys =>
    obtain ⟨old, ys', hi, hr⟩ := insL_replAt ys x d (by simp only [Item.size] at h; omega)
    exact ⟨old, ys, ys', rfl, by simp [Item.ins, hi], hr⟩
  | _ => simp [Item.size] at h
theorem insL_replAt (xs : List Item) (x : Item) (d : Nat) (h : d < Item.sizeL xs) :
    ∃ old xs', Item.insL xs x (d + 1) = .ok xs' ∧ ReplAt old x d xs xs' := by
  cases xs with
  | nil => simp [Item.sizeL] at h
  | cons c cs =>
    simp only [Item.sizeL] at h
    cases d with
    | zero => exact ⟨c, x :: cs, by simp [Item.insL], .here cs⟩
    | succ d =>
      by_cases hc : d + 1 < c.size
      · obtain ⟨old, ys, ys', rfl, hi, hr⟩ := ins_replAt c x d hc
        exact ⟨old, .list ys' :: cs, by simp [Item.insL, hi], .down cs hr⟩
      · obtain ⟨k, hk⟩ := Nat.exists_eq_add_of_le (Nat.le_of_not_lt hc)
        obtain ⟨old, cs', hi, hr⟩ := insL_replAt cs x k (by omega)
        exact ⟨old, c :: cs', by rw [Item.insL, if_neg (Nat.succ_ne_zero d), hk, ins_beyond]; simp only [hi],
          hk ▸ .skip c hr⟩
end

theorem replAt_of_insL {xs xs' : List Item} {x : Item} {d : Nat} (h : Item.insL xs x d = .ok xs') :
    ∃ old, ReplAt old x (d - 1) xs xs' := by
  cases d with
  | zero => cases xs <;> cases h
  | succ d =>
    by_cases hlt : d < Item.sizeL xs
    · obtain ⟨old, xs'', hi, hr⟩ := insL_replAt xs x d hlt
      cases hi.symm.trans h
      exact ⟨old, hr⟩
    · cases (insL_err xs x (d + 1) (by omega) (by omega)).symm.trans h
theorem replAt_of_ins {t x t' : Item} {d : Nat} (h : Item.ins t x d = .ok t') :
    ∃ old ys ys', t = .list ys ∧ t' = .list ys' ∧ ReplAt old x (d - 1) ys ys' := by
  cases d with
  | zero => cases t <;> cases h
  | succ d =>
    by_cases hlt : d + 1 < t.size
    · obtain ⟨old, ys, ys', rfl, hi, hr⟩ := ins_replAt t x d hlt
      cases hi.symm.trans h
      exact ⟨old, ys, ys', rfl, rfl, hr⟩
    · cases (ins_err t x (d + 1) (by omega)).symm.trans h

section
variable {old x : Item} {d : Nat} {xs xs' : List Item}

/-- what holds of the replaced point in `xs` holds of the new one in `xs'` -/
theorem ReplAt.symm (h : ReplAt old x d xs xs') : ReplAt x old d xs' xs := by
  induction h with
  | here cs => exact .here cs
  | down cs _ ih => exact .down cs ih
  | skip c _ ih => exact .skip c ih

theorem ReplAt.getElem?_points (h : ReplAt old x d xs xs') : (Item.pointsL xs)[d]? = some old := by
  induction h with
  | here cs => cases old <;> rfl
  | down cs _ ih =>
    simp only [Item.pointsL, Item.points, List.cons_append, List.getElem?_cons_succ]
    rwa [List.getElem?_append_left (List.getElem?_eq_some_iff.mp ih).1]
  | skip c _ ih =>
    rwa [Item.pointsL, List.getElem?_append_right (by rw [points_length]; omega), points_length, Nat.add_sub_cancel_left]

theorem ReplAt.travL (h : ReplAt old x d xs xs') : Item.travL xs (d + 1) = .ok old := by
  rw [travL_spec, h.getElem?_points]; rfl

theorem ReplAt.sizeL (h : ReplAt old x d xs xs') : Item.sizeL xs' + old.size = Item.sizeL xs + x.size := by
  induction h <;> simp only [Item.sizeL, Item.size] <;> omega

end

/-- **INSERT then EXTRACT**: for every tree and every point index `1 ≤ d < size`, inserting `x` at `d`
succeeds and a following traversal to `d` returns exactly `x` -/
theorem ins_trav (t x : Item) (d : Nat) (h1 : 1 ≤ d) (h2 : d < t.size) :
    ∃ t', Item.ins t x d = .ok t' ∧ Item.trav t' d = .ok x := by
  obtain ⟨d, rfl⟩ := Nat.exists_eq_add_of_le' h1
  obtain ⟨old, ys, ys', rfl, hi, hr⟩ := ins_replAt t x d h2
  exact ⟨_, hi, hr.symm.travL⟩
theorem insL_trav (xs : List Item) (x : Item) (d : Nat) (h1 : 1 ≤ d) (h2 : d - 1 < Item.sizeL xs) :
    ∃ xs', Item.insL xs x d = .ok xs' ∧ Item.travL xs' d = .ok x := by
  obtain ⟨d, rfl⟩ := Nat.exists_eq_add_of_le' h1
  obtain ⟨old, xs', hi, hr⟩ := insL_replAt xs x d h2
  exact ⟨xs', hi, hr.symm.travL⟩

/-- an index beyond the tree is rejected (`.error`), which CODE.INSERT turns into a no-op (unit test
`code_insert_does_nothing_when_index_too_big`) -/
theorem ins_out_of_range (t x : Item) (d : Nat) (h : t.size ≤ d) : ∃ e, Item.ins t x d = .error e :=
  ⟨_, ins_err t x d h⟩

/-! ## POSITION is `findIdx?` over the points -/

mutual
theorem pos_eq_findIdx? (t p : Item) (d : Nat) :
    Item.pos t p d = ((Item.points t).findIdx? (Item.equals · p)).map (· + d) := by
  unfold Item.pos
  cases t with
  | list xs =>
    simp only [Item.points, List.findIdx?_cons]
    split
    · simp
    · simp [posL_eq_findIdx? xs p (d + 1), Function.comp_def, Nat.add_assoc, Nat.add_comm 1 d]
  | _ => simp only [Item.points, List.findIdx?_cons]; split <;> simp
theorem posL_eq_findIdx? (xs : List Item) (p : Item) (d : Nat) :
    Item.posL xs p d = ((Item.pointsL xs).findIdx? (Item.equals · p)).map (· + d) := by
  cases xs with
  | nil => rfl
  | cons x xs =>
    simp only [Item.posL, Item.pointsL, List.findIdx?_append, pos_eq_findIdx? x p d, posL_eq_findIdx? xs p (d + x.size),
      points_length]
    cases List.findIdx? (Item.equals · p) (Item.points x) <;> simp [Function.comp_def, Nat.add_assoc, Nat.add_comm d]
end

theorem findIdx?_add_sound {α : Type} {l : List α} {f : α → Bool} {d k : Nat} (h : (l.findIdx? f).map (· + d) = some k) :
    d ≤ k ∧ k < d + l.length ∧ ∃ q, l[k - d]? = some q ∧ f q = true ∧
      ∀ j, j < k - d → ∀ q', l[j]? = some q' → f q' = false := by
  obtain ⟨i, hi, rfl⟩ := Option.map_eq_some_iff.mp h
  obtain ⟨hlt, hf, hmin⟩ := List.findIdx?_eq_some_iff_getElem.mp hi
  refine ⟨by omega, by omega, l[i], by simp [hlt], hf, fun j hj q' hq' => ?_⟩
  obtain ⟨hj', rfl⟩ := List.getElem?_eq_some_iff.mp hq'
  simpa using hmin j (by omega)

theorem findIdx?_add_none {α : Type} {l : List α} {f : α → Bool} {d : Nat} (h : (l.findIdx? f).map (· + d) = none) :
    ∀ (j : Nat) (q : α), l[j]? = some q → f q = false := fun _ q hq =>
  List.findIdx?_eq_none_iff.mp (Option.map_eq_none_iff.mp h) q (List.mem_of_getElem? hq)

theorem pos_sound (t p : Item) (d k : Nat) (h : Item.pos t p d = some k) :
    d ≤ k ∧ k < d + t.size ∧ ∃ q, (Item.points t)[k - d]? = some q ∧ Item.equals q p = true ∧
      ∀ j, j < k - d → ∀ q', (Item.points t)[j]? = some q' → Item.equals q' p = false := by
  rw [← points_length]; exact findIdx?_add_sound (pos_eq_findIdx? t p d ▸ h)
theorem posL_sound (xs : List Item) (p : Item) (d k : Nat) (h : Item.posL xs p d = some k) :
    d ≤ k ∧ k < d + Item.sizeL xs ∧ ∃ q, (Item.pointsL xs)[k - d]? = some q ∧ Item.equals q p = true ∧
      ∀ j, j < k - d → ∀ q', (Item.pointsL xs)[j]? = some q' → Item.equals q' p = false := by
  rw [← pointsL_length]; exact findIdx?_add_sound (posL_eq_findIdx? xs p d ▸ h)
theorem pos_none (t p : Item) (d : Nat) (h : Item.pos t p d = none) :
    ∀ (j : Nat) (q : Item), (Item.points t)[j]? = some q → Item.equals q p = false :=
  findIdx?_add_none (pos_eq_findIdx? t p d ▸ h)
theorem posL_none (xs : List Item) (p : Item) (d : Nat) (h : Item.posL xs p d = none) :
    ∀ (j : Nat) (q : Item), (Item.pointsL xs)[j]? = some q → Item.equals q p = false :=
  findIdx?_add_none (posL_eq_findIdx? xs p d ▸ h)

/-- **CODE.POSITION**: the index returned is one at which EXTRACT finds an item equal to the searched
one, it is the first such index, and the answer is -1 (absent) exactly when no point matches -/
theorem position_spec (t p : Item) :
    (∀ k, Item.pos t p 0 = some k →
        k < t.size ∧ (∃ q, (Item.trav t k).toOption = some q ∧ Item.equals q p = true) ∧
        ∀ j, j < k → ∀ q', (Item.points t)[j]? = some q' → Item.equals q' p = false) ∧
    (Item.pos t p 0 = none → ∀ (j : Nat) (q : Item), (Item.points t)[j]? = some q → Item.equals q p = false) := by
  refine ⟨fun k hk => ?_, pos_none t p 0⟩
  obtain ⟨_, hlt, q, hq, he, hmin⟩ := pos_sound t p 0 k hk
  rw [Nat.zero_add] at hlt
  exact ⟨hlt, ⟨q, by rw [trav_eq_points t k hlt]; exact hq, he⟩, hmin⟩

theorem atomsOf_list (xs : List Item) : atomsOf (.list xs) = xs.flatMap atomsOf := by
  show ((Item.pointsL xs).filter fun q => !isList q).map Item.show = _
  simp only [Item.pointsL_eq_flatMap, List.filter_flatMap, List.map_flatMap]; rfl

theorem atomsOf_consElems (a : Item) : (consElems a).flatMap atomsOf = atomsOf a := by
  cases a <;> simp [consElems, atomsOf_list]

/-- **CONS loses no atom and invents none**: the atoms of the result are those of the second item
followed by those of the top item -/
theorem cons_atoms (a b : Item) :
    atomsOf (.list (consElems a ++ consElems b)) = atomsOf a ++ atomsOf b := by
  rw [atomsOf_list, List.flatMap_append, atomsOf_consElems, atomsOf_consElems]

theorem cons_keepsAtoms (rc : Oracle → State → Nat → Option (Item × Nat)) (ρ : Oracle) (s : State) (top second : Item)
    (l : List Item) (h : s.code = top :: second :: l) :
    ∃ r, (semCode rc ρ .cons s).code = r :: l ∧ keepsAtoms top second r = true := by
  cases s
  cases h
  exact ⟨.list (consElems second ++ consElems top), rfl, by simp [keepsAtoms, cons_atoms, List.isPerm_iff]⟩

/-- LIST and APPEND keep both operands whole -/
theorem list_keepsAtoms (top second : Item) : keepsAtoms top second (.list [top, second]) = true := by
  simp only [keepsAtoms, atomsOf_list, List.flatMap_cons, List.flatMap_nil, List.append_nil, List.isPerm_iff]
  exact List.perm_append_comm

theorem expect_sound (rc : Oracle → State → Nat → Option (Item × Nat)) (ρ : Oracle) (o : CodeOp) (s w : State)
    (ho : o = .cdr ∨ o = .cons ∨ o = .car ∨ o = .list ∨ o = .atom ∨ o = .null ∨ o = .length ∨ o = .eq)
    (h : expect o s = some w) : semCode rc ρ o s = w := by
  -- with the CODE stack given by constructors as far as any row looks at it, both sides evaluate
  rcases s with ⟨_, _, _, _, _ | ⟨⟨_ | _⟩ | _ | _ | _, _ | ⟨_ | _ | _ | _, l⟩⟩⟩ <;>
    rcases ho with rfl | rfl | rfl | rfl | rfl | rfl | rfl | rfl <;> cases h <;> rfl

/-- INSERT at index 0 replaces the whole item: EXTRACT at 0 then yields the inserted item -/
theorem insert_zero (rc : Oracle → State → Nat → Option (Item × Nat)) (ρ : Oracle) (s : State) (il : List Int32)
    (top x : Item) (l : List Item) (hi : s.int = 0 :: il) (hc : s.code = top :: x :: l) :
    (semCode rc ρ .insert s).code = x :: x :: l := by
  cases s
  cases hi; cases hc; rfl

/-! ## CODE.INSERT with an out-of-range index (known finding K02)

Full statement: after `i CODE.INSERT`, `i CODE.EXTRACT` yields the inserted item — for every `i`,
because the indexing of INSERT is documented to be computed as in EXTRACT. `ins_trav` proves it for
`1 ≤ i < size`; index 0 replaces the whole item. For an index beyond the tree the behaviour
asserted by a unit test is a no-op, and the statement fails: -/
theorem k02_insert_out_of_range_violates :
    let top : Item := .list [.lit (.int 1)]
    let x : Item := .lit (.int 7)
    -- INSERT at 5 leaves `top` unchanged …
    (Item.ins top x 5).toOption = none ∧
    -- … and EXTRACT at 5 (normalised to 5 mod 2 = 1) returns `1`, not the inserted `7`
    ((Item.trav top (remEuclid 5 top.size)).toOption.map fun q => Item.equals q x) = some false := by
  decide

/-! non-vacuity, on the tree the unit tests use: ( 1 2 ( 3 ) 4 ) -/
def fixture : Item := .list [.lit (.int 1), .lit (.int 2), .list [.lit (.int 3)], .lit (.int 4)]
example : fixture.size = 6 := by decide
example : Item.pos fixture (.lit (.int 4)) 0 = some 5 := by decide
example : (Item.ins fixture (.lit (.int 9)) 5).toOption
    = some (.list [.lit (.int 1), .lit (.int 2), .list [.lit (.int 3)], .lit (.int 9)]) := by rfl

theorem subst_root (t p sub : Item) (h : Item.equals t p = true) : Item.subst t p sub = sub := by
  unfold Item.subst; simp [h]

/-- **all matches are replaced, top-down**: a non-matching list is rebuilt from the substituted
children, one for one (so the list structure outside the matches is kept) -/
theorem subst_list (xs : List Item) (p sub : Item) (h : Item.equals (.list xs) p = false) :
    Item.subst (.list xs) p sub = .list (xs.map fun x => Item.subst x p sub) := by
  conv => lhs; unfold Item.subst
  simp only [h, Bool.false_eq_true, if_false, Item.substL_eq_map]

theorem subst_atom (t p sub : Item) (h : Item.equals t p = false) (ha : isList t = false) :
    Item.subst t p sub = t := by
  unfold Item.subst
  cases t <;> simp_all [isList]

/-- **only matches are replaced**: an item none of whose points matches is left exactly as it is -/
theorem subst_no_match (t p sub : Item) (h : ∀ q ∈ Item.points t, Item.equals q p = false) :
    Item.subst t p sub = t := by
  induction t using Item.induct with
  | list xs ih =>
    rw [subst_list xs p sub (h _ (mem_points_self _))]
    exact congrArg Item.list ((List.map_congr_left fun x hx => ih x hx fun q hq =>
      h q (mem_points_list.mpr (.inr ⟨x, hx, hq⟩))).trans (List.map_id xs))
  | _ => exact subst_atom _ p sub (h _ (mem_points_self _)) rfl
theorem substL_no_match (xs : List Item) (p sub : Item) (h : ∀ q ∈ Item.pointsL xs, Item.equals q p = false) :
    Item.substL xs p sub = xs := by
  rw [Item.substL_eq_map]
  exact (List.map_congr_left fun x hx => subst_no_match x p sub fun q hq =>
    h q (Item.pointsL_eq_flatMap xs ▸ List.mem_flatMap.mpr ⟨x, hx, hq⟩)).trans (List.map_id xs)

theorem expect_subst_sound (rc : Oracle → State → Nat → Option (Item × Nat)) (ρ : Oracle) (s w : State)
    (h : expect .subst s = some w) : semCode rc ρ .subst s = w := by
  rcases s with ⟨_, _, _, _, _ | ⟨target, _ | ⟨sub, _ | ⟨pat, l⟩⟩⟩⟩ <;> dsimp only [expect] at h <;> try cases h
  dsimp only [semCode]
  split at h
  · next he => cases h; rw [subst_root target pat sub he]
  · split at h
    · next hall =>
      cases h
      rw [subst_no_match target pat sub fun q hq => by simpa using List.all_eq_true.mp hall q hq]
    · cases h

theorem containerL_ne_true (xs : List Item) (p parent : Item) : Item.containerL xs p parent ≠ .error true := by
  induction xs with
  | nil => simp [Item.containerL]
  | cons x xs ih =>
    simp only [Item.containerL]
    split
    · exact nofun
    · exact nofun
    · exact ih

theorem equals_of_container {t p : Item} (h : Item.container t p = .error true) : Item.equals t p = true := by
  unfold Item.container at h
  split at h
  · assumption
  · cases t with
    | list ys => exact absurd h (containerL_ne_true ys p _)
    | _ => cases h

theorem exists_of_containerL {xs : List Item} {p parent c : Item} (h : Item.containerL xs p parent = .ok c) :
    ∃ x ∈ xs, Item.container x p = .ok c ∨ (Item.equals x p = true ∧ c = parent) := by
  induction xs with
  | nil => cases h
  | cons x xs ih =>
    simp only [Item.containerL] at h
    split at h
    · next hc => cases h; exact ⟨x, List.mem_cons_self, .inl hc⟩
    · next hc => cases h; exact ⟨x, List.mem_cons_self, .inr ⟨equals_of_container hc, rfl⟩⟩
    · obtain ⟨y, hy, h⟩ := ih h; exact ⟨y, List.mem_cons_of_mem _ hy, h⟩

/-- the container returned is a list, it is a point of the searched item, and one of its DIRECT
elements is a match: it is the innermost (smallest) list enclosing that match -/
theorem container_spec (t p c : Item) (h : Item.container t p = .ok c) :
    c ∈ Item.points t ∧ ∃ xs, c = .list xs ∧ ∃ x ∈ xs, Item.equals x p = true := by
  induction t using Item.induct with
  | list xs ih =>
    unfold Item.container at h
    split at h
    · cases h
    · obtain ⟨x, hx, hc | ⟨he, rfl⟩⟩ := exists_of_containerL h
      · exact ⟨mem_points_list.mpr (.inr ⟨x, hx, (ih x hx hc).1⟩), (ih x hx hc).2⟩
      · exact ⟨mem_points_self _, xs, rfl, x, hx, he⟩
  | _ => unfold Item.container at h; split at h <;> cases h
theorem containerL_spec (xs : List Item) (p parent c : Item) (h : Item.containerL xs p parent = .ok c) :
    (c ∈ Item.pointsL xs ∨ c = parent) ∧
    ((∃ ys, c = .list ys ∧ ∃ x ∈ ys, Item.equals x p = true) ∨ (c = parent ∧ ∃ x ∈ xs, Item.equals x p = true)) := by
  obtain ⟨x, hx, hc | ⟨he, rfl⟩⟩ := exists_of_containerL h
  · have ⟨hm, hl⟩ := container_spec x p c hc
    exact ⟨.inl (Item.pointsL_eq_flatMap xs ▸ List.mem_flatMap.mpr ⟨x, hx, hm⟩), .inl hl⟩
  · exact ⟨.inr rfl, .inr ⟨rfl, x, hx, he⟩⟩

theorem discrepancy_lists (fs ss : List Item) :
    discrepancy (.list fs) (.list ss) = lenI32 ((List.zipWith (fun x y => y.show != x.show) fs ss).count true
      + ((fs.length : Int) - (ss.length : Int)).natAbs) := by
  have : (fs.zipIdx.filter fun (x, i) => match ss[i]? with
      | some y => y.show != x.show
      | none => false).length = (List.zipWith (fun x y => y.show != x.show) fs ss).count true := by
    rw [← List.countP_eq_length_filter]
    induction fs generalizing ss with
    | nil => simp
    | cons x fs ih =>
      cases ss with
      | nil => simp
      | cons y ss =>
        simp [List.zipIdx_succ, List.countP_map, List.countP_cons, List.count_cons, Function.comp_def, ← ih ss]
  rw [← this]; rfl

theorem discrepancy_symm (a b : Item) : discrepancy a b = discrepancy b a := by
  cases a <;> cases b
  case list.list fs ss =>
    rw [discrepancy_lists, discrepancy_lists, List.zipWith_comm]
    simp only [bne_comm]
    congr 2; omega
  all_goals simp only [discrepancy, bne_comm]

theorem discrepancy_self (a : Item) : discrepancy a a = 0 := by
  cases a with
  | list fs => simp [discrepancy_lists, List.zipWith_self, List.map_const', List.count_replicate, lenI32]
  | _ => simp [discrepancy]

end Pushr.C08
