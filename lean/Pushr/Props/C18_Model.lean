import Pushr.Props.C18
/-! # C18 (supplement) — the graph API refines a plain set-based model

`getState` is the node map and `getWeight` the edge map of the model; every API operation is characterised by
what it does to these two maps, for every graph. The association lists stay sorted by key (`WF`; the canonical form the codec relies on), so
membership and lookup coincide. -/
namespace Pushr.C18
open Pushr Pushr.Graph

def Sorted {β : Type} (m : List (Nat × β)) : Prop := (m.map (·.1)).Pairwise (· < ·)

theorem sorted_nil {β : Type} : Sorted ([] : List (Nat × β)) := by simp [Sorted]

theorem insertKey_keys {β : Type} (k : Nat) (v : β) (m : List (Nat × β)) (x : Nat)
    (hx : x ∈ (insertKey k v m).map (·.1)) : x = k ∨ x ∈ m.map (·.1) := by
  obtain ⟨m', hs, hp⟩ := insertKey_perm k v m
  rcases List.mem_cons.mp ((hp.map _).mem_iff.mp hx) with h | h
  · exact .inl h
  · exact .inr ((hs.map _).subset h)

theorem sorted_insertKey {β : Type} {k : Nat} {v : β} {m : List (Nat × β)} (h : Sorted m) :
    Sorted (insertKey k v m) := by
  fun_induction insertKey k v m with
  | case1 => simp [Sorted]
  | case2 k' v' t hlt =>
    have h' := List.pairwise_cons.mp h
    refine List.pairwise_cons.mpr ⟨fun x hx => ?_, h⟩
    rcases List.mem_cons.mp hx with rfl | hx
    · exact hlt
    · exact Nat.lt_trans hlt (h'.1 x hx)
  | case3 v' t _ => exact h
  | case4 k' v' t _ _ ih =>
    have h' := List.pairwise_cons.mp h
    refine List.pairwise_cons.mpr ⟨fun x hx => ?_, ih h'.2⟩
    rcases insertKey_keys k v t x hx with rfl | hx'
    · show k' < _; omega
    · exact h'.1 x hx'

theorem sorted_filter {β : Type} {p : Nat × β → Bool} {m : List (Nat × β)} (h : Sorted m) : Sorted (m.filter p) :=
  List.Pairwise.sublist (List.filter_sublist.map _) h

theorem sorted_map_val {β γ : Type} (f : Nat → β → γ) (m : List (Nat × β)) (h : Sorted m) :
    Sorted (m.map fun p => (p.1, f p.1 p.2)) := by
  unfold Sorted at *
  simpa [List.map_map, Function.comp_def] using h

theorem mem_iff_lookup {β : Type} (m : List (Nat × β)) (h : Sorted m) (k : Nat) (v : β) :
    (k, v) ∈ m ↔ lookupKey k m = some v :=
  ⟨lookup_of_mem (h.imp Nat.ne_of_lt), mem_of_lookup⟩

def WF (g : Graph) : Prop := Sorted g.nodes ∧ Sorted g.edges ∧ GInv g

theorem WF.nodes {g : Graph} (h : WF g) : Sorted g.nodes := h.1
theorem WF.edges {g : Graph} (h : WF g) : Sorted g.edges := h.2.1
theorem WF.inv {g : Graph} (h : WF g) : GInv g := h.2.2

theorem wf_empty : WF Graph.empty := ⟨sorted_nil, sorted_nil, empty_inv⟩

theorem wf_addNode (g : Graph) (id : Nat) (st : Int32) (h : WF g) : WF (g.addNode id st) :=
  ⟨sorted_insertKey h.nodes, h.edges, addNode_inv g id st h.inv⟩

theorem wf_setState (g : Graph) (id : Nat) (st : Int32) (h : WF g) : WF (g.setState id st) := by
  rw [setState_eq]; split
  · exact wf_addNode g id st h
  · exact h

/-- an edge operation (`setIn` or nothing) keeps the maps sorted -/
theorem wf_setIn_ite {g : Graph} (h : WF g) {c : Prop} [Decidable c] {d : Nat} {l : List Edge}
    (hinv : GInv (if c then setIn g d l else g)) : WF (if c then setIn g d l else g) := by
  by_cases hc : c
  · rw [if_pos hc] at hinv ⊢; exact ⟨h.nodes, sorted_insertKey h.edges, hinv⟩
  · rw [if_neg hc]; exact h

theorem wf_addEdge (g : Graph) (o d : Nat) (w : Float32) (h : WF g) : WF (g.addEdge o d w) := by
  have := addEdge_inv g o d w h.inv
  rw [addEdge_eq] at this ⊢; exact wf_setIn_ite h this

theorem wf_removeEdge (g : Graph) (o d : Nat) (h : WF g) : WF (g.removeEdge o d) := by
  have := removeEdge_inv g o d h.inv
  rw [removeEdge_eq] at this ⊢; exact wf_setIn_ite h this

theorem wf_setWeight (g : Graph) (o d : Nat) (w : Float32) (h : WF g) : WF (g.setWeight o d w) := by
  have := setWeight_inv g o d w h.inv
  rw [setWeight_eq] at this ⊢; exact wf_setIn_ite h this

theorem wf_removeNode (g : Graph) (id : Nat) (h : WF g) : WF (g.removeNode id) := by
  refine ⟨sorted_filter h.nodes, ?_, removeNode_inv g id h.inv⟩
  exact sorted_map_val (fun _ l => l.filter (·.origin != id)) _ (sorted_filter h.edges)

theorem getState_addNode (g : Graph) (id : Nat) (st : Int32) (k : Nat) :
    (g.addNode id st).getState k = if k = id then some st else g.getState k := by
  simp [getState, addNode, lookup_insert]

theorem getState_setState (g : Graph) (id : Nat) (st : Int32) (k : Nat) :
    (g.setState id st).getState k = if k = id ∧ g.hasNode id = true then some st else g.getState k := by
  rw [setState_eq]
  by_cases h : g.hasNode id = true
  · simp only [h, if_true, and_true, getState_addNode]
  · simp only [h, if_false, and_false, Bool.false_eq_true]

theorem getState_removeNode (g : Graph) (id : Nat) (k : Nat) :
    (g.removeNode id).getState k = if k = id then none else g.getState k := by
  simp [getState, removeNode, lookup_filter_ne]

/-- the weight map after an edge operation (`setIn` or nothing) whose new list differs from the old one at origin `o` only -/
theorem getWeight_ite_setIn (g : Graph) (c : Prop) [Decidable c] (o d : Nat) (l : List Edge) (v : Option Float32)
    (hl : c → ∀ o', wIn l o' = if o' = o then v else wIn (inList g d) o') (o' d' : Nat) :
    (if c then setIn g d l else g).getWeight o' d' = if o' = o ∧ d' = d ∧ c then v else g.getWeight o' d' := by
  by_cases hc : c
  · rw [if_pos hc, getWeight_setIn]
    by_cases hdd : d' = d
    · rw [if_pos hdd, hl hc, hdd, ← getWeight_eq]; simp only [hc, and_true]
    · simp only [hdd, if_false, false_and, and_false]
  · simp only [hc, if_false, and_false]

theorem getWeight_addEdge (g : Graph) (o d : Nat) (w : Float32) (o' d' : Nat) :
    (g.addEdge o d w).getWeight o' d' =
      if o' = o ∧ d' = d ∧ g.hasNode o = true ∧ g.hasNode d = true ∧ g.getWeight o d = none then some w
      else g.getWeight o' d' := by
  rw [addEdge_eq]
  exact getWeight_ite_setIn g _ o d _ _ (fun hc o' => wIn_append_single _ _ _ _ (getWeight_eq g o d ▸ hc.2.2)) o' d'

theorem getWeight_setWeight (g : Graph) (o d : Nat) (w : Float32) (o' d' : Nat) :
    (g.setWeight o d w).getWeight o' d' =
      if o' = o ∧ d' = d ∧ (g.getWeight o d).isSome then some w else g.getWeight o' d' := by
  rw [setWeight_eq]
  refine getWeight_ite_setIn g _ o d _ _ (fun hc o' => ?_) o' d'
  rw [wIn_map_set, ← getWeight_eq, hc]; simp only [and_true]

theorem getWeight_removeEdge (g : Graph) (o d : Nat) (o' d' : Nat) :
    (g.removeEdge o d).getWeight o' d' = if o' = o ∧ d' = d then none else g.getWeight o' d' := by
  rw [removeEdge_eq, getWeight_ite_setIn g _ o d _ none (fun _ o' => wIn_filter_ne _ o o') o' d']
  -- without an incoming list there was no edge to remove
  by_cases hs : (lookupKey d g.edges).isSome = true
  · simp only [hs, and_true]
  · rw [if_neg fun h => hs h.2.2]
    split
    · next h => rw [getWeight_eq, inList, h.1, h.2, Option.not_isSome_iff_eq_none.mp hs]; rfl
    · rfl

theorem getWeight_removeNode (g : Graph) (id : Nat) (o' d' : Nat) :
    (g.removeNode id).getWeight o' d' = if o' = id ∨ d' = id then none else g.getWeight o' d' := by
  simp only [getWeight_eq, inList, lookup_removeNode]
  by_cases hd : d' = id
  · rw [if_pos hd, if_pos (.inr hd)]; rfl
  · simp only [hd, if_false, or_false]
    cases lookupKey d' g.edges with
    | none => split <;> rfl
    | some l => exact wIn_filter_ne l id o'

end Pushr.C18
