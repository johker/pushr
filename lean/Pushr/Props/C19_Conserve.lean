import Pushr.Props.C19
import Pushr.Spec.C15
import Pushr.Lemmas.Load
/-! # C19 (supplement) — loading conserves items; LIST.ADD / LIST.SET / LIST.REMOVE touch exactly the addressed record -/
namespace Pushr.C19
open Pushr

/-- total number of items on the nine stacks `load_items` can take from -/
def stackTotal (s : State) : Nat :=
  s.bool.length + s.bvec.length + s.code.length + s.exec.length + s.float.length + s.fvec.length
  + s.int.length + s.ivec.length + s.name.length

theorem popTop_total {s s' : State} {it : Item} (h : PopTop s it s') : stackTotal s = stackTotal s' + 1 := by
  -- in each case the `1` is moved to the end of the sum (`omega` over the nine lengths is much slower to check)
  cases h <;> simp only [stackTotal, *, List.length_cons, ← Nat.add_assoc, Nat.add_right_comm _ 1]

/-- **no loss, no duplication**: items in the record + items left on the stacks = items before -/
theorem loadFold_conserves (ids : List Int32) (s : State) (acc : List Item) :
    (loadFold ids s acc).1.length + stackTotal (loadFold ids s acc).2 = acc.length + stackTotal s :=
  loadFold_induct (P := fun acc' s' => acc'.length + stackTotal s' = acc.length + stackTotal s) ids rfl
    fun ih hp => by
      have := popTop_total (popItem_popTop hp)
      rw [List.length_append, List.length_singleton]; omega

theorem loadFold_prefix (ids : List Int32) (s : State) (acc : List Item) :
    ∃ more, (loadFold ids s acc).1 = acc ++ more :=
  loadFold_induct (P := fun acc' _ => ∃ more, acc' = acc ++ more) ids ⟨[], (List.append_nil acc).symm⟩
    fun {_ _ _ it _} ⟨m, hm⟩ _ => ⟨m ++ [it], by rw [hm, List.append_assoc]⟩

theorem loadFold_length_le (ids : List Int32) (s : State) (acc : List Item) :
    (loadFold ids s acc).1.length ≤ acc.length + ids.length := by
  fun_induction loadFold ids s acc with
  | case1 => simp
  | case2 sid ids s acc it s' _ ih => simp at ih ⊢; omega
  | case3 sid ids s acc _ ih => simp; omega

/-- LIST.ADD: the id vector is consumed, the designated items leave their stacks and ONE record holding exactly
them is pushed on CODE -/
theorem list_add_spec (s : State) (ids : List Int32) (l : List (List Int32)) (h : s.ivec = ids :: l) :
    semList .add s =
      pushCode (loadFold ids { s with ivec := l } []).2 (.list (loadFold ids { s with ivec := l } []).1.reverse) := by
  simp [semList, loadItems_record s ids l h]

/-- LIST.SET replaces exactly the addressed record of the CODE stack as loading left it -/
theorem list_set_replaces_exactly (s : State) (i : Int32) (il : List Int32) (ids : List Int32)
    (l : List (List Int32)) (hi : s.int = i :: il) (hv : s.ivec = ids :: l) :
    let loaded := loadFold ids { s with int := il, ivec := l } []
    let record := Item.list loaded.1.reverse
    let p := clampIdx loaded.2.code.length i
    (semList .set s).code.length = loaded.2.code.length ∧
    (loaded.2.code ≠ [] → (semList .set s).code[p]? = some record) ∧
    ∀ j, j ≠ p → (semList .set s).code[j]? = loaded.2.code[j]? := by
  intro loaded record p
  simp only [semList, hi, loadItems_record { s with int := il } ids l hv]
  split
  · next he => exact ⟨rfl, fun h => absurd (List.isEmpty_iff.mp he) h, fun _ _ => rfl⟩
  · exact ⟨List.length_set, fun hne => List.getElem?_set_self
      (record_address_clamped _ i (List.length_pos_iff.mpr hne)), fun j hj => List.getElem?_set_ne (Ne.symm hj)⟩

theorem list_remove_others (s : State) (i : Int32) (il : List Int32) (h : s.int = i :: il) (j : Nat) :
    (semList .remove s).code[j]? =
      if j < clampIdx s.code.length i then s.code[j]? else s.code[j + 1]? := by
  rw [list_remove_exactly s i il h]
  simp [List.getElem?_eraseIdx]

/-- non-vacuity: ids 9 and 1 name the INTEGER and the BOOLEAN stack -/
example :
    let s : State := { Pushr.C15.emptyState with ivec := [[9, 1]], int := [10, 11], bool := [true] }
    (semList .add s).code.length = 1 ∧ (semList .add s).int = [11] ∧ (semList .add s).bool = [] ∧
    (semList .add s).ivec = [] := by decide

end Pushr.C19
