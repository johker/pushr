import Pushr.Topology
/-! # C20 — neighbourhood computation on index topologies is geometrically sound

All statements hold for every total size, dimension count, centre and for **every** radius test
`within` on the exact squared distance (the `f32` test `sqrt(d²) ≤ r` is one instance, tied by the
correspondence check). -/
namespace Pushr.C20
open Pushr.Topo

theorem ceilRootFrom_spec (N d : Nat) (hd : 1 ≤ d) (fuel e : Nat) (he : 1 ≤ e) (heN : e ≤ N) (hf : N ≤ e + fuel)
    (hsm : ∀ e', 1 ≤ e' → e' < e → e' ^ d < N) :
    N ≤ (ceilRootFrom N d fuel e) ^ d ∧ 1 ≤ ceilRootFrom N d fuel e ∧
      ∀ e', 1 ≤ e' → e' < ceilRootFrom N d fuel e → e' ^ d < N := by
  have hpow : ∀ e, e ≤ e ^ d := Nat.le_self_pow (by omega)
  fun_induction ceilRootFrom N d fuel e with
  | case1 e => exact ⟨Nat.le_trans hf (hpow e), he, hsm⟩
  | case2 fuel e h => exact ⟨h, he, hsm⟩
  | case3 fuel e h ih =>
    -- an edge that fails the test is below `N`, since `e ≤ e ^ d`: the fuel `N` is never used up
    have hlt : e < N := Nat.lt_of_not_le fun hNe => h (Nat.le_trans hNe (hpow e))
    refine ih (by omega) hlt (by omega) fun e' h1 h2 => ?_
    rcases Nat.lt_or_eq_of_le (Nat.le_of_lt_succ h2) with h3 | rfl
    · exact hsm e' h1 h3
    · exact Nat.lt_of_not_le h

theorem ceilRoot_smallest (N d : Nat) (hN : 1 ≤ N) (hd : 1 ≤ d) :
    N ≤ (ceilRoot N d) ^ d ∧ ∀ e', 1 ≤ e' → e' < ceilRoot N d → e' ^ d < N := by
  have := ceilRootFrom_spec N d hd N 1 (Nat.le_refl 1) hN (by omega) (by intro e' h1 h2; omega)
  exact ⟨this.1, this.2.2⟩

def recompose (e : Nat) : List Nat → Nat
  | [] => 0
  | d :: ds => d + e * recompose e ds

theorem digits_length (i e n : Nat) : (digits i e n).length = n := by
  induction n with
  | zero => rfl
  | succ n ih => simp [digits, ih]

theorem recompose_append (e : Nat) (a : List Nat) (d : Nat) :
    recompose e (a ++ [d]) = recompose e a + d * e ^ a.length := by
  induction a with
  | nil => simp [recompose]
  | cons x a ih =>
    simp only [List.cons_append, recompose, ih, List.length_cons, Nat.pow_succ]
    rw [Nat.mul_add, Nat.add_assoc]
    congr 2
    rw [Nat.mul_comm (e ^ a.length) e, ← Nat.mul_assoc, Nat.mul_comm e d, Nat.mul_assoc]

theorem recompose_digits (i e n : Nat) : recompose e (digits i e n) = i % e ^ n := by
  induction n with
  | zero => simp [digits, recompose, Nat.mod_one]
  | succ n ih =>
    rw [digits, recompose_append, ih, digits_length, Nat.mod_pow_succ, Nat.mul_comm]

theorem recompose_decompose (i e n : Nat) (h : i < e ^ n) : recompose e (digits i e n) = i := by
  rw [recompose_digits, Nat.mod_eq_of_lt h]

theorem decompose_injective (i j e n : Nat) (hi : i < e ^ n) (hj : j < e ^ n)
    (h : digits i e n = digits j e n) : i = j := by
  rw [← recompose_decompose i e n hi, ← recompose_decompose j e n hj, h]

theorem digits_lt (i e n : Nat) (he : 0 < e) : ∀ d ∈ digits i e n, d < e := by
  induction n with
  | zero => simp [digits]
  | succ n ih =>
    intro d hd
    simp only [digits, List.mem_append, List.mem_singleton] at hd
    rcases hd with hd | hd
    · exact ih d hd
    · subst hd; exact Nat.mod_lt _ he

theorem dist2_self : ∀ (a : List Nat), dist2 a a = 0
  | [] => rfl
  | x :: xs => by simp [dist2, dist2_self xs]

theorem dist2_comm : ∀ (a b : List Nat), dist2 a b = dist2 b a
  | [], [] => rfl
  | [], _ :: _ => rfl
  | _ :: _, [] => rfl
  | x :: xs, y :: ys => by
    simp only [dist2, dist2_comm xs ys]
    congr 1
    rcases Nat.lt_trichotomy x y with h | rfl | h
    · rw [if_neg (Nat.not_le_of_lt h), if_pos (Nat.le_of_lt h)]
    · rfl
    · rw [if_pos (Nat.le_of_lt h), if_neg (Nat.not_le_of_lt h)]

/-- **the neighbourhood is exactly the set comprehension** -/
theorem mem_scan (within : Nat → Bool) (e n : Nat) (c : List Nat) (N i : Nat) :
    i ∈ scan within e n c N ↔ i < N ∧ within (dist2 c (digits i e n)) = true := by
  simp [scan]

theorem scan_sorted (within : Nat → Bool) (e n : Nat) (c : List Nat) (N : Nat) :
    (scan within e n c N).Pairwise (· < ·) := by
  unfold scan
  exact List.Pairwise.filter _ List.pairwise_lt_range

theorem scan_valid (within : Nat → Bool) (e n : Nat) (c : List Nat) (N : Nat) :
    ∀ i ∈ scan within e n c N, i < N := fun _ hi => ((mem_scan ..).mp hi).1

theorem nb_contains_centre (within : Nat → Bool) (hw : within 0 = true) (e n N i : Nat) (hi : i < N) :
    i ∈ scan within e n (digits i e n) N := by
  rw [mem_scan]; exact ⟨hi, by rw [dist2_self]; exact hw⟩

theorem nb_symmetric (within : Nat → Bool) (e n N i j : Nat) (hi : i < N) (hj : j < N) :
    j ∈ scan within e n (digits i e n) N ↔ i ∈ scan within e n (digits j e n) N := by
  rw [mem_scan, mem_scan, dist2_comm]
  exact ⟨fun h => ⟨hi, h.2⟩, fun h => ⟨hj, h.2⟩⟩

theorem nb_monotone (w1 w2 : Nat → Bool) (h : ∀ d, w1 d = true → w2 d = true) (e n : Nat) (c : List Nat)
    (N i : Nat) (hi : i ∈ scan w1 e n c N) : i ∈ scan w2 e n c N := by
  rw [mem_scan] at *; exact ⟨hi.1, h _ hi.2⟩

/-- `find_neighbors` on valid operands: the comprehension over the smallest enclosing hypercube -/
theorem findNeighbors_spec (within : Nat → Bool) (N d i : Nat) (hN : 1 ≤ N) (hd : 1 ≤ d) (hi : i ≤ N)
    (hp : (ceilRoot N d) ^ (d - 1) < 2 ^ 64) :
    findNeighbors within false N d i
      = some (scan within (ceilRoot N d) d (digits i (ceilRoot N d) d) N) := by
  rw [findNeighbors, if_neg (by simp only [Bool.false_eq_true, false_or]; omega)]
  simp only [decompose, if_pos (Or.inr hp : d = 0 ∨ _)]

theorem findNeighbors_invalid (within : Nat → Bool) (neg : Bool) (N d i : Nat)
    (h : neg = true ∨ d < 1 ∨ N < 1 ∨ i > N) : findNeighbors within neg N d i = none := by
  unfold findNeighbors; rw [if_pos h]

/-! non-vacuity: 125 indices in 3 dimensions live on the 5 x 5 x 5 cube (the repaired edge) -/
example : ceilRoot 125 3 = 5 := by decide
example : ceilRoot 37 2 = 7 := by decide
example : digits 37 7 2 = [2, 5] := by decide

end Pushr.C20
