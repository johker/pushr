import Pushr.BufferImpl
import Pushr.Sem
import Pushr.Lemmas.Rs
/-! # C17 — the ring buffer behaves like a bounded sequence

Refinement of Layer 0 (`Ring`: container + `start`/`end`/`len` cursors modulo capacity, indexing
that can panic) to Layer 1 (`Buf`: capacity + the live items, oldest first), for every capacity
≥ 1, both kinds, every element type and every history (invariant `Inv`, preserved by every
operation from `new`).

The live item number `j` (from the oldest) sits in slot `(fin + j) % cap`. Every cursor formula of
`buffer.rs` is brought to that form (`wrap_add`, `wrap_sub`, `start_back`), and every mutation is one
of three moves on `live`: extend at the end, split off the front, write a slot that is not live. -/
namespace Pushr.C17
open Pushr

variable {α : Type} [Inhabited α]

/-- the write cursor stands where the live items end -/
def Inv (r : Ring α) : Prop :=
  0 < r.cap ∧ r.cont.length = r.cap ∧ r.fin < r.cap ∧ r.len ≤ r.cap ∧ r.start = (r.fin + r.len) % r.cap

section
variable {α : Type} {r : Ring α} (h : Inv r)
include h
theorem Inv.cap_pos : 0 < r.cap := h.1
theorem Inv.cont_length : r.cont.length = r.cap := h.2.1
theorem Inv.fin_lt : r.fin < r.cap := h.2.2.1
theorem Inv.len_le : r.len ≤ r.cap := h.2.2.2.1
theorem Inv.start_eq : r.start = (r.fin + r.len) % r.cap := h.2.2.2.2
end

def abs (r : Ring α) : List α :=
  (List.range r.len).map fun i => r.cont.getD ((r.fin + i) % r.cap) default

def absBuf (r : Ring α) : Buf α := ⟨r.cap, abs r⟩

theorem abs_length (r : Ring α) : (abs r).length = r.len := by simp [abs]

theorem size_le_capacity (r : Ring α) (h : Inv r) : r.size ≤ r.cap := h.len_le

theorem slot_inj {f a b c : Nat} (ha : a < c) (hb : b < c) (h : (f + a) % c = (f + b) % c) : a = b := by
  have key : ∀ {a b}, b ≤ a → a < c → (f + a) % c = (f + b) % c → a = b := by
    intro a b hba ha h
    have := Nat.sub_mod_eq_zero_of_mod_eq h
    rw [Nat.add_sub_add_left, Nat.mod_eq_of_lt (by omega)] at this
    omega
  rcases Nat.le_total b a with hba | hab
  · exact key hba ha h
  · exact (key hab hb h.symm).symm

/-- `end + i`, `- capacity` when beyond the last slot -/
theorem wrap_add (c a : Nat) (h : a < c + c) : (if a > c - 1 then a - c else a) = a % c := by
  split
  · rw [Nat.mod_eq_sub_mod (by omega), Nat.mod_eq_of_lt (by omega)]
  · exact (Nat.mod_eq_of_lt (by omega)).symm

/-- `start - k`, `+ capacity` when negative -/
theorem wrap_sub (c s k : Nat) (hs : s < c) (hk : k ≤ c) :
    (if k ≤ s then s - k else s + c - k) = (s + (c - k)) % c := by
  split
  · rw [show s + (c - k) = s - k + c by omega, Nat.add_mod_right, Nat.mod_eq_of_lt (by omega)]
  · rw [show s + (c - k) = s + c - k by omega, Nat.mod_eq_of_lt (by omega)]

omit [Inhabited α] in
theorem start_back (r : Ring α) (h : Inv r) (k : Nat) (hk : k ≤ r.len) :
    (r.start + (r.cap - k)) % r.cap = (r.fin + (r.len - k)) % r.cap := by
  obtain ⟨_, _, _, hle, hs⟩ := h
  rw [hs, Nat.mod_add_mod, show r.fin + r.len + (r.cap - k) = r.fin + (r.len - k) + r.cap by omega,
    Nat.add_mod_right]

omit [Inhabited α] in
theorem start_lt (r : Ring α) (h : Inv r) : r.start < r.cont.length := by
  rw [h.cont_length, h.start_eq]; exact Nat.mod_lt _ h.cap_pos

/-- `abs` with container and cursors as arguments, so that it can be followed through a write or a cursor move -/
def live (c : Nat) (cont : List α) (f n : Nat) : List α :=
  (List.range n).map fun i => cont.getD ((f + i) % c) default

theorem abs_eq_live (r : Ring α) : abs r = live r.cap r.cont r.fin r.len := rfl

theorem live_succ (c : Nat) (cont : List α) (f n : Nat) :
    live c cont f (n + 1) = live c cont f n ++ [cont.getD ((f + n) % c) default] := by
  simp [live, List.range_succ]

theorem live_cons (c : Nat) (cont : List α) (f n : Nat) :
    live c cont f (n + 1) = cont.getD (f % c) default :: live c cont ((f + 1) % c) n := by
  simp [live, List.range_succ_eq_map, Nat.mod_add_mod, Nat.add_assoc, Nat.add_comm 1]

theorem live_set_dead {c n k : Nat} (cont : List α) (f : Nat) (x : α) (hn : n ≤ k) (hk : k < c) :
    live c (cont.set ((f + k) % c) x) f n = live c cont f n := by
  apply List.map_congr_left
  intro i hi
  have hi := List.mem_range.mp hi
  have : (f + k) % c ≠ (f + i) % c := fun e => by have := slot_inj hk (by omega) e; omega
  rw [List.getD_eq_getElem?_getD, List.getElem?_set_ne this, ← List.getD_eq_getElem?_getD]

/-- seen from `f + 1` the slot `f` is position `c - 1`, not live as long as fewer than `c` items are -/
theorem live_set_prev {c f n : Nat} (cont : List α) (x : α) (hf : f < c) (hn : n < c) :
    live c (cont.set f x) ((f + 1) % c) n = live c cont ((f + 1) % c) n := by
  have := live_set_dead (c := c) (n := n) (k := c - 1) cont ((f + 1) % c) x (by omega) (by omega)
  rwa [Nat.mod_add_mod, show f + 1 + (c - 1) = f + c by omega, Nat.add_mod_right, Nat.mod_eq_of_lt hf] at this

theorem live_rotate {c f n : Nat} (cont : List α) (x : α) (hl : cont.length = c) (hf : f < c) (hn : n = c) :
    live c (cont.set f x) ((f + 1) % c) n = (live c cont f n).tail ++ [x] := by
  obtain ⟨m, rfl⟩ : ∃ m, n = m + 1 := ⟨n - 1, by omega⟩
  rw [live_succ, live_set_prev _ _ hf (by omega), live_cons, List.tail_cons, Nat.mod_add_mod,
    show f + 1 + m = f + c by omega, Nat.add_mod_right, Nat.mod_eq_of_lt hf, List.getD_eq_getElem?_getD,
    List.getElem?_set_self (by omega)]
  rfl

theorem abs_getElem? (r : Ring α) (i : Nat) :
    (abs r)[i]? = if i < r.len then some (r.cont.getD ((r.fin + i) % r.cap) default) else none := by
  simp only [abs, List.getElem?_map]
  split <;> simp_all

theorem abs_reverse_getElem? (r : Ring α) (i : Nat) :
    (abs r).reverse[i]?
      = if i < r.len then some (r.cont.getD ((r.fin + (r.len - 1 - i)) % r.cap) default) else none := by
  split
  · next hi => rw [List.getElem?_reverse (by rw [abs_length]; exact hi), abs_length, abs_getElem?, if_pos (by omega)]
  · exact List.getElem?_eq_none (by simp [abs_length]; omega)

theorem cont_slot (r : Ring α) (h : Inv r) (j : Nat) :
    r.cont[(r.fin + j) % r.cap]? = some (r.cont.getD ((r.fin + j) % r.cap) default) := by
  have : (r.fin + j) % r.cap < r.cont.length := by rw [h.cont_length]; exact Nat.mod_lt _ h.cap_pos
  simp [List.getD_eq_getElem?_getD, List.getElem?_eq_getElem this]

theorem read_slot (r : Ring α) (h : Inv r) (j : Nat) :
    RVec.idx r.cont ((r.fin + j) % r.cap) = .ok (r.cont.getD ((r.fin + j) % r.cap) default) :=
  RVec.idx_some (cont_slot r h j)

theorem new_inv (k : BufKind) (cap : Nat) (h : 0 < cap) : Inv (Ring.new k cap : Ring α) := by
  refine ⟨h, by simp [Ring.new], h, by simp [Ring.new], ?_⟩
  simp [Ring.new, Nat.mod_eq_of_lt h]

theorem new_abs (k : BufKind) (cap : Nat) : abs (Ring.new k cap : Ring α) = [] := by simp [abs, Ring.new]

theorem flush_inv (r : Ring α) (h : Inv r) : Inv r.flush := new_inv r.kind r.cap h.cap_pos

theorem flush_abs (r : Ring α) : absBuf r.flush = (absBuf r).flush := by
  simp [absBuf, abs, Ring.flush, Buf.flush]

theorem push_refines (r : Ring α) (x : α) (h : Inv r) :
    ∃ r', r.push x = .ok r' ∧ Inv r' ∧ absBuf r' = (absBuf r).push x := by
  have hst := start_lt r h
  obtain ⟨hc, hl, hf, hle, hs⟩ := h
  unfold Ring.push Ring.isFull
  by_cases hfull : r.len = r.cap
  · exact ⟨r, by simp [hfull], ⟨hc, hl, hf, hle, hs⟩, by simp [absBuf, Buf.push, abs_length, hfull]⟩
  · have hlt : r.len < r.cap := by omega
    refine ⟨{ r with cont := r.cont.set r.start x, len := r.len + 1, start := (r.start + 1) % r.cap },
      by simp [hfull, RVec.set_ok hst, bind, Except.bind], ?_, ?_⟩
    · exact ⟨hc, by simp [hl], hf, hlt, by simp only [hs, Nat.mod_add_mod]; rfl⟩
    · simp only [absBuf, Buf.push, abs_length, hlt, if_true]
      simp only [abs_eq_live]
      -- the slot `start` is not live: extend by one, then read back what was written
      rw [live_succ, hs, live_set_dead _ _ _ (Nat.le_refl _) hlt, ← hs,
        List.getD_eq_getElem?_getD, List.getElem?_set_self hst]
      rfl

theorem pushForce_refines (r : Ring α) (x : α) (h : Inv r) :
    ∃ r', r.pushForce x = .ok r' ∧ Inv r' ∧ absBuf r' = (absBuf r).pushForce x := by
  have hst := start_lt r h
  by_cases hfull : r.len = r.cap
  · -- full: the oldest item (slot `fin = start`) is overwritten and `fin` moves on
    obtain ⟨hc, hl, hf, hle, hs⟩ := h
    have hsf : r.start = r.fin := by rw [hs, hfull, Nat.add_mod_right, Nat.mod_eq_of_lt hf]
    refine ⟨{ r with cont := r.cont.set r.start x, fin := (r.fin + 1) % r.cap, start := (r.start + 1) % r.cap },
      by simp [Ring.pushForce, Ring.isFull, hfull, RVec.set_ok hst, bind, Except.bind], ?_, ?_⟩
    · exact ⟨hc, by simp [hl], Nat.mod_lt _ hc, hle, by simp only [hsf, hfull, Nat.add_mod_right, Nat.mod_mod]⟩
    · simp only [absBuf, Buf.pushForce, abs_length, show ¬ r.len < r.cap by omega, if_false, hsf]
      simp only [abs_eq_live, live_rotate _ _ hl hf hfull]
  · have e1 : r.pushForce x = r.push x := by simp [Ring.pushForce, Ring.push, Ring.isFull, hfull]
    have e2 : (absBuf r).pushForce x = (absBuf r).push x := by
      have : r.len < r.cap := by have := h.len_le; omega
      simp [Buf.pushForce, Buf.push, absBuf, abs_length, this]
    rw [e1, e2]; exact push_refines r x h

omit [Inhabited α] in
theorem stack_slot (r : Ring α) (h : Inv r) (i : Nat) (hi : i < r.len) :
    (if i + 1 ≤ r.start then r.start - (i + 1) else r.start + r.cap - (i + 1))
      = (r.fin + (r.len - 1 - i)) % r.cap := by
  have := h.len_le
  rw [wrap_sub _ _ _ (h.cont_length ▸ start_lt r h) (by omega), start_back r h _ hi, Nat.sub_sub, Nat.add_comm 1]

omit [Inhabited α] in
/-- position → slot: a queue counts from the oldest item, a stack-kind buffer from the newest -/
theorem getIndex_eq (r : Ring α) (h : Inv r) (i : Nat) :
    r.getIndex i = if i < r.len then
      some ((r.fin + (match r.kind with | .queue => i | .stack => r.len - 1 - i)) % r.cap) else none := by
  unfold Ring.getIndex
  split
  · next hg => rw [if_neg]; simp only [beq_iff_eq, Bool.or_eq_true, decide_eq_true_eq] at hg; omega
  · next hg =>
    have hi : i < r.len := by simp only [beq_iff_eq, Bool.or_eq_true, decide_eq_true_eq] at hg; omega
    rw [if_pos hi]
    cases r.kind with
    | queue => have := h.fin_lt; have := h.len_le; exact congrArg some (wrap_add r.cap (r.fin + i) (by omega))
    | stack => exact congrArg some (stack_slot r h i hi)

theorem get_queue (r : Ring α) (h : Inv r) (hk : r.kind = .queue) (i : Nat) :
    r.get i = .ok ((absBuf r).getQueue i) := by
  unfold Ring.get Buf.getQueue absBuf
  rw [getIndex_eq r h, hk, abs_getElem?]
  by_cases hi : i < r.len <;> simp only [hi, if_true, if_false, read_slot r h, bind, Except.bind]

theorem get_stack (r : Ring α) (h : Inv r) (hk : r.kind = .stack) (i : Nat) :
    r.get i = .ok ((absBuf r).getStack i) := by
  unfold Ring.get Buf.getStack absBuf
  rw [getIndex_eq r h, hk, abs_reverse_getElem?]
  by_cases hi : i < r.len <;> simp only [hi, if_true, if_false, read_slot r h, bind, Except.bind]

theorem iter_eq_abs (r : Ring α) :
    r.iterSlots.map (fun k => r.cont.getD k default) = abs r := by
  simp [Ring.iterSlots, abs]

/-- printing (repaired) visits exactly the live items, newest first -/
theorem print_eq_abs_reverse (r : Ring α) (h : Inv r) :
    r.printSlots.map (fun k => r.cont.getD k default) = (abs r).reverse := by
  apply List.ext_getElem?
  intro i
  rw [abs_reverse_getElem?]
  simp only [Ring.printSlots, List.map_map, List.getElem?_map]
  split
  · next hi => rw [List.getElem?_range hi]; simp only [Option.map_some, Function.comp, stack_slot r h i hi]
  · next hi => rw [List.getElem?_eq_none (by simpa using hi)]; rfl

theorem pop_queue_refines (r : Ring α) (h : Inv r) (hk : r.kind = .queue) :
    ∃ o r', r.pop = .ok (o, r') ∧ Inv r' ∧ (o, absBuf r') = (absBuf r).popOldest := by
  unfold Ring.pop
  rw [getIndex_eq r h, hk]
  by_cases h0 : r.len = 0
  · exact ⟨none, r, by simp [h0], h, by simp [absBuf, Buf.popOldest, abs, h0]⟩
  · obtain ⟨m, hm⟩ : ∃ m, r.len = m + 1 := ⟨r.len - 1, by omega⟩
    have hrd := read_slot r h 0
    obtain ⟨hc, hl, hf, hle, hs⟩ := h
    rw [Nat.add_zero, Nat.mod_eq_of_lt hf] at hrd
    refine ⟨some (r.cont.getD r.fin default),
      { r with cont := r.cont.set r.fin default, len := r.len - 1, fin := (r.fin + 1) % r.cap }, ?_, ?_, ?_⟩
    · simp only [show 0 < r.len by omega, if_true, Nat.add_zero, Nat.mod_eq_of_lt hf, hrd, RVec.set_ok (hl ▸ hf), bind,
        Except.bind, hk]
    · refine ⟨hc, by simp [hl], Nat.mod_lt _ hc, by simp; omega, ?_⟩
      simp only [hs, Nat.mod_add_mod]; congr 1; omega
    · -- `abs r = cont[fin] :: rest`, and `rest` does not see the slot `fin`
      simp only [absBuf, abs_eq_live]
      rw [live_set_prev _ _ hf (by omega), hm, live_cons, Nat.mod_eq_of_lt hf]
      rfl

theorem pop_stack_refines (r : Ring α) (h : Inv r) (hk : r.kind = .stack) :
    ∃ o r', r.pop = .ok (o, r') ∧ Inv r' ∧ (o, absBuf r') = (absBuf r).popNewest := by
  unfold Ring.pop
  rw [getIndex_eq r h, hk]
  by_cases h0 : r.len = 0
  · exact ⟨none, r, by simp [h0], h, by simp [absBuf, Buf.popNewest, abs, h0]⟩
  · obtain ⟨m, hm⟩ : ∃ m, r.len = m + 1 := ⟨r.len - 1, by omega⟩
    have hrd := read_slot r h m
    obtain ⟨hc, hl, hf, hle, hs⟩ := h
    have hk' : (r.fin + m) % r.cap < r.cont.length := by rw [hl]; exact Nat.mod_lt _ hc
    refine ⟨some (r.cont.getD ((r.fin + m) % r.cap) default),
      { r with cont := r.cont.set ((r.fin + m) % r.cap) default, len := m, start := (r.fin + m) % r.cap }, ?_, ?_, ?_⟩
    · simp only [hm, Nat.zero_lt_succ, if_true, Nat.add_sub_cancel, Nat.sub_zero, hrd, RVec.set_ok hk', bind,
        Except.bind, hk]
    · exact ⟨hc, by simp [hl], hf, by simp; omega, rfl⟩
    · simp only [absBuf, abs_eq_live]
      rw [live_set_dead _ _ _ (Nat.le_refl _) (by omega), hm, live_succ]
      simp [Buf.popNewest]

theorem input_next_fifo (s : State) : (semIo .next s).input.items = s.input.items.tail ∧
    (semIo .next s).input.cap = s.input.cap := by
  simp only [semIo, Buf.popOldest]
  cases h : s.input.items <;> simp [h]

theorem input_read_oldest (s : State) (m : Msg) (l : List Msg) (h : s.input.items = m :: l) :
    semIo .read s = { s with bvec := m.body :: s.bvec, ivec := m.header :: s.ivec } := by
  simp [semIo, Buf.oldest, h]

theorem input_get_oldest (s : State) (i : Int32) (il : List Int32) (m : Msg) (l : List Msg)
    (hi : s.int = i :: il) (h : s.input.items = m :: l) (hb : 0 < m.body.length) :
    ∃ b, m.body[clampIdx m.body.length i]? = some b ∧
      semIo .get s = { s with int := il, bool := b :: s.bool } := by
  have hlt : clampIdx m.body.length i < m.body.length := by unfold clampIdx; omega
  refine ⟨m.body[clampIdx m.body.length i], List.getElem?_eq_getElem hlt, ?_⟩
  simp [semIo, hi, Buf.oldest, h, List.getElem?_eq_getElem hlt, pushBool]

/-- when the queue is full the message is dropped (a plain push) -/
theorem output_write_enqueues (s : State) (b : List Bool) (bl : List (List Bool)) (h : List Int32)
    (hl : List (List Int32)) (hb : s.bvec = b :: bl) (hh : s.ivec = h :: hl) :
    semIo .outWrite s = { s with bvec := bl, ivec := hl, output := s.output.push ⟨h, b⟩ } := by
  simp [semIo, hb, hh]

theorem foldl_push {α : Type} (b : Buf α) (ms : List α) :
    (ms.foldl Buf.push b).items = b.items ++ ms.take (b.cap - b.items.length) ∧ (ms.foldl Buf.push b).cap = b.cap := by
  induction ms generalizing b with
  | nil => simp
  | cons m ms ih =>
    rw [List.foldl_cons, Buf.push]
    split
    · obtain ⟨h1, h2⟩ := ih { b with items := b.items ++ [m] }
      refine ⟨?_, h2⟩
      rw [h1, List.length_append, List.length_singleton,
        show b.cap - b.items.length = b.cap - (b.items.length + 1) + 1 by omega, List.take_succ_cons, List.append_assoc]
      rfl
    · have := ih b
      rwa [show b.cap - b.items.length = 0 by omega, List.take_zero, List.append_nil] at this ⊢

/-- **program order**: any number of plain pushes (OUTPUT.WRITEs) leaves exactly the queued items followed by
the first written messages that still fitted, in the order written; later ones are ignored -/
theorem pushes_in_order {α : Type} (b : Buf α) (ms : List α) (hb : b.items.length ≤ b.cap) :
    (ms.foldl Buf.push b).items = b.items ++ ms.take (b.cap - b.items.length) ∧ (ms.foldl Buf.push b).cap = b.cap :=
  foldl_push b ms

theorem writes_from_empty {α : Type} (cap : Nat) (ms : List α) :
    (ms.foldl Buf.push ⟨cap, []⟩).items = ms.take cap := by
  simpa using (foldl_push (⟨cap, []⟩ : Buf α) ms).1

/-! non-vacuity: a wrapped-around buffer satisfies the invariant -/
example : Inv ({ cap := 3, cont := [7, 8, 9], start := 1, fin := 2, len := 2, kind := .queue } : Ring Nat) := by
  refine ⟨by decide, rfl, by decide, by decide, by decide⟩
example : abs ({ cap := 3, cont := [7, 8, 9], start := 1, fin := 2, len := 2, kind := .queue } : Ring Nat) = [9, 7] := by
  decide

end Pushr.C17
