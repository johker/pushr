import Pushr.ListRec
import Pushr.Interp
import Pushr.Props.C05
/-! # C19 — LIST records move items between stacks without loss, duplication or reordering -/
namespace Pushr.C19
open Pushr

def hits (t p : Item) : List Item := (Item.points t).filter fun q => Item.shallowEq p q
def hitsL (ts : List Item) (p : Item) : List Item := (Item.pointsL ts).filter fun q => Item.shallowEq p q

/-- what a search for hit number `n` answers on the hits `h` when `c` hits lie before them: the `(n - c)`-th of `h`, or
the count after `h`. `sel_cons` and `sel_append` are the recursion of `Item.find` and `Item.findL`. -/
def sel (h : List Item) (c n : Nat) : Except Nat Item :=
  (h[n - c]?).elim (.error (c + h.length)) .ok

theorem sel_cons (q : Item) (h : List Item) {c n : Nat} (hc : c ≤ n) :
    sel (q :: h) c n = if c = n then .ok q else sel h (c + 1) n := by
  split
  · next e => rw [e, sel, Nat.sub_self]; rfl
  · next e =>
    rw [sel, sel, show n - c = n - (c + 1) + 1 by omega, List.getElem?_cons_succ, List.length_cons,
      Nat.add_right_comm c 1, Nat.add_assoc c]

theorem sel_error {h : List Item} {c n c' : Nat} (hc : c ≤ n) (e : sel h c n = .error c') : c' ≤ n := by
  unfold sel at e
  cases hn : h[n - c]? with
  | some r => rw [hn] at e; cases e
  | none => rw [hn] at e; cases e; have := List.getElem?_eq_none_iff.mp hn; omega

theorem sel_append (h₁ h₂ : List Item) {c n : Nat} (hc : c ≤ n) :
    sel (h₁ ++ h₂) c n = match sel h₁ c n with
      | .ok r => .ok r
      | .error c' => sel h₂ c' n := by
  induction h₁ generalizing c with
  | nil => rfl
  | cons q h₁ ih =>
    rw [List.cons_append, sel_cons _ _ hc, sel_cons _ _ hc]
    split
    · rfl
    · next e => exact ih (Nat.lt_of_le_of_ne hc e)

theorem hitsL_cons (t : Item) (ts : List Item) (p : Item) : hitsL (t :: ts) p = hits t p ++ hitsL ts p := by
  rw [hitsL, Item.pointsL, List.filter_append]; rfl

mutual
theorem find_sel (t p : Item) (c n : Nat) (hc : c ≤ n) : Item.find t p c n = sel (hits t p) c n := by
  unfold Item.find hits
  cases t with
  | list xs =>
    simp only [Item.points, List.filter_cons]
    split
    · rw [sel_cons _ _ hc]
      split
      · rfl
      · next e => exact findL_sel xs p (c + 1) n (Nat.lt_of_le_of_ne hc e)
    · exact findL_sel xs p c n hc
  | _ =>
    simp only [Item.points, List.filter_cons, List.filter_nil]
    split
    · rw [sel_cons _ _ hc]; rfl
    · rfl
theorem findL_sel (ts : List Item) (p : Item) (c n : Nat) (hc : c ≤ n) :
    Item.findL ts p c n = sel (hitsL ts p) c n := by
  cases ts with
  | nil => rfl
  | cons t ts =>
    rw [Item.findL, hitsL_cons, sel_append _ _ hc, find_sel t p c n hc]
    cases e : sel (hits t p) c n with
    | ok r => rfl
    | error c' => exact findL_sel ts p c' n (sel_error hc e)
end

theorem find_spec (t p : Item) (c n : Nat) (hc : c ≤ n) :
    Item.find t p c n = match (hits t p)[n - c]? with
      | some r => .ok r
      | none => .error (c + (hits t p).length) := by
  rw [find_sel t p c n hc, sel]; cases (hits t p)[n - c]? <;> rfl
theorem findL_spec (ts : List Item) (p : Item) (c n : Nat) (hc : c ≤ n) :
    Item.findL ts p c n = match (hitsL ts p)[n - c]? with
      | some r => .ok r
      | none => .error (c + (hitsL ts p).length) := by
  rw [findL_sel ts p c n hc, sel]; cases (hitsL ts p)[n - c]? <;> rfl

/-- LIST.IVAL / BVAL / FVAL: the n-th value of the requested type inside the addressed item, counted
depth-first from the top (`none`: `bvalOf` / `ivalOf` / `fvalOf` answer the type's default) -/
theorem nthOf_spec (pat item : Item) (n : Int32) (hn : 0 ≤ n.toInt) :
    nthOf pat item n = (hits item pat)[n.toInt.toNat]? := by
  unfold nthOf
  have : ¬ n < 0 := by
    intro h; have := Int32.lt_iff_toInt_lt.mp h; simp at this; omega
  simp only [this, if_false]
  rw [find_spec item pat 0 n.toInt.toNat (Nat.zero_le _)]
  simp only [Nat.sub_zero]
  cases (hits item pat)[n.toInt.toNat]? <;> rfl

theorem record_address_clamped (len : Nat) (i : Int32) (h : 0 < len) : clampIdx len i < len :=
  C05.clampIdx_lt len i h

theorem list_remove_exactly (s : State) (i : Int32) (il : List Int32) (h : s.int = i :: il) :
    semList .remove s = { s with int := il, code := s.code.eraseIdx (clampIdx s.code.length i) } := by
  simp [semList, h]

theorem list_get_leaves_record (s : State) (i : Int32) (il : List Int32) (xs : List Item)
    (h : s.int = i :: il) (hr : s.code[clampIdx s.code.length i]? = some (.list xs)) :
    semList .get s = { s with int := il, exec := .list xs :: s.exec } := by
  simp [semList, h, hr, pushExec]

theorem loadFold_skip (sid : Int32) (ids : List Int32) (s : State) (acc : List Item)
    (h : popById s sid = none) : loadFold (sid :: ids) s acc = loadFold ids s acc := by
  simp [loadFold, h]

theorem loadFold_take (sid : Int32) (ids : List Int32) (s s' : State) (it : Item) (acc : List Item)
    (h : popById s sid = some (it, s')) : loadFold (sid :: ids) s acc = loadFold ids s' (acc ++ [it]) := by
  simp [loadFold, h]

/-- the record lists the loaded items with the LAST popped one on top -/
theorem loadItems_record (s : State) (ids : List Int32) (l : List (List Int32)) (h : s.ivec = ids :: l) :
    loadItems s = some (.list (loadFold ids { s with ivec := l } []).1.reverse,
                        (loadFold ids { s with ivec := l } []).2) := by
  simp [loadItems, h]

variable (X : Ext) (ρ : Oracle)

def execLits (s : State) : List Lit → State
  | [] => s
  | v :: vs => execLits (pushLit s v) vs

theorem pushLit_exec (s : State) (v : Lit) (e : List Item) :
    pushLit { s with exec := e } v = { pushLit s v with exec := e } := by
  cases v <;> rfl

theorem exec_literals (lits : List Lit) (E : List Item) (s : State) :
    stepN X ρ lits.length { s with exec := lits.map Item.lit ++ E } = { execLits s lits with exec := E } := by
  induction lits generalizing s with
  | nil => simp [stepN, execLits]
  | cons v vs ih =>
    simp only [List.length_cons, stepN, List.map_cons, List.cons_append, step, execLits]
    rw [pushLit_exec, ih]

/-- integers taken by LIST.ADD and brought back by executing the LIST.GET copy return to the INTEGER
stack in their original order: popping `a` (top) then `b` builds the record `( b a )`, whose execution
pushes `b` first and `a` last -/
theorem restore_order_two (a b : Int32) (E : List Item) (s : State) :
    stepN X ρ 3 { s with exec := .list [.lit (.int b), .lit (.int a)] :: E }
      = { s with exec := E, int := a :: b :: s.int } := by
  simp [stepN, step, pushLit, pushInt]

end Pushr.C19
