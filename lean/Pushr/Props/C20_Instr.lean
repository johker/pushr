import Pushr.Props.C20
import Pushr.ListRec
/-! # C20 (supplement) — the LIST.NEIGHBOR* instructions return exactly the neighbourhood (or the addressed values of
the records at these CODE-stack positions) after clamping their operands -/
namespace Pushr.C20
open Pushr Pushr.Topo

theorem nbOperands_clamped (dimsRaw indexRaw sizeRaw : Int32) :
    let r := nbOperands dimsRaw indexRaw sizeRaw
    (0 < r.1 → r.2.1 < r.1) ∧ r.2.2 ≤ r.1 ∧ (r.1 = 0 → r.2.1 = 0 ∧ r.2.2 = 0) := by
  simp only [nbOperands]
  -- the three bounds hold whatever the clamped size is
  generalize (max sizeRaw.toInt 0).toNat = n
  refine ⟨fun h => by omega, by omega, fun h => by omega⟩

theorem nbOperands_id (dimsRaw indexRaw sizeRaw : Int32) (hs : 0 ≤ sizeRaw.toInt)
    (hi : 0 ≤ indexRaw.toInt ∧ indexRaw.toInt < sizeRaw.toInt) (hd : 0 ≤ dimsRaw.toInt ∧ dimsRaw.toInt ≤ sizeRaw.toInt) :
    nbOperands dimsRaw indexRaw sizeRaw = (sizeRaw.toInt.toNat, indexRaw.toInt.toNat, dimsRaw.toInt.toNat) := by
  simp only [nbOperands, Int.max_eq_left hs, Int.toNat_of_nonneg hs,
    Int.min_eq_right (show indexRaw.toInt ≤ sizeRaw.toInt - 1 by omega), Int.max_eq_left hi.1,
    Int.min_eq_right hd.2, Int.max_eq_left hd.1]

theorem neighbors_valid_sorted (dims index size : Int32) (r : Float32) (ns : List Nat)
    (h : neighbors dims index size r = some ns) :
    ns.Pairwise (· < ·) ∧ ∀ i ∈ ns, i < (nbOperands dims index size).1 := by
  simp only [neighbors, findNeighbors] at h
  split at h
  · cases h
  · split at h
    · cases h
    · simp only [Option.some.injEq] at h
      subst h
      exact ⟨scan_sorted _ _ _ _ _, scan_valid _ _ _ _ _⟩

/-- LIST.NEIGHBOR*IDS consumes its four operands and pushes exactly the neighbourhood -/
theorem nbIds_spec (s : State) (size index dims : Int32) (il : List Int32) (r : Float32) (fl : List Float32)
    (hi : s.int = size :: index :: dims :: il) (hf : s.float = r :: fl) :
    semList .nbIds s = match neighbors dims index size r with
      | some ns => { s with int := il, float := fl, ivec := ns.map lenI32 :: s.ivec }
      | none => { s with int := il, float := fl } := by
  cases h : neighbors dims index size r <;> simp only [semList, hi, hf, h]

/-- LIST.NEIGHBOR*IVALS pushes the addressed INTEGER values of exactly the records that exist at the
neighbourhood's CODE-stack positions, in ascending position order -/
theorem nbIvals_spec (s : State) (pos size index dims : Int32) (il : List Int32) (r : Float32) (fl : List Float32)
    (hi : s.int = pos :: size :: index :: dims :: il) (hf : s.float = r :: fl) :
    semList .nbIvals s = match neighbors dims index size r with
      | some ns => { s with int := il, float := fl,
                            ivec := (ns.filterMap fun n => (s.code[n]?).map fun it => ivalOf it pos) :: s.ivec }
      | none => { s with int := il, float := fl } := by
  cases h : neighbors dims index size r <;> simp only [semList, hi, hf, h]

theorem nbBvals_spec (s : State) (pos size index dims : Int32) (il : List Int32) (r : Float32) (fl : List Float32)
    (hi : s.int = pos :: size :: index :: dims :: il) (hf : s.float = r :: fl) :
    semList .nbBvals s = match neighbors dims index size r with
      | some ns => { s with int := il, float := fl,
                            bvec := (ns.filterMap fun n => (s.code[n]?).map fun it => bvalOf it pos) :: s.bvec }
      | none => { s with int := il, float := fl } := by
  cases h : neighbors dims index size r <;> simp only [semList, hi, hf, h]

theorem nbFvals_spec (s : State) (pos size index dims : Int32) (il : List Int32) (r : Float32) (fl : List Float32)
    (hi : s.int = pos :: size :: index :: dims :: il) (hf : s.float = r :: fl) :
    semList .nbFvals s = match neighbors dims index size r with
      | some ns => { s with int := il, float := fl,
                            fvec := (ns.filterMap fun n => (s.code[n]?).map fun it => fvalOf it pos) :: s.fvec }
      | none => { s with int := il, float := fl } := by
  cases h : neighbors dims index size r <;> simp only [semList, hi, hf, h]

/-- the size operand is NOT clamped to the number of records: positions without a record are skipped, the
geometry is that of the requested size -/
theorem values_only_existing (code : List Item) (ns : List Nat) (f : Item → Int32) :
    (ns.filterMap fun n => (code[n]?).map f).length = (ns.filter (· < code.length)).length := by
  induction ns with
  | nil => rfl
  | cons n t ih =>
    simp only [List.filterMap_cons, List.filter_cons]
    by_cases h : n < code.length <;> simp [h, ih]

example : nbOperands 2 3 9 = (9, 3, 2) := by decide
example : nbOperands 200 (-5) 9 = (9, 0, 9) := by decide

end Pushr.C20
