import Pushr.Unregistered
import Pushr.Props.C17
/-! # C17 (supplement): INPUT.FLUSH, the instruction function `input_flush` the crate ships unregistered -/
open Pushr
namespace Pushr.C17

theorem inputFlush_empties (s : State) :
    (semInputFlush s).input.items = [] ∧ (semInputFlush s).input.cap = s.input.cap := by
  simp [semInputFlush, Buf.flush]

theorem inputFlush_frame (s : State) : { semInputFlush s with input := s.input } = s := by
  simp [semInputFlush]

end Pushr.C17
