import Pushr.Spec.C04
import Pushr.Interp
import Pushr.Lemmas.I32
import Pushr.Lemmas.Lens
/-! # C04 — scalar instructions compute what their documentation says

`ScalarSound`: for every instruction of the reference table and every state on which the row
applies (operands present), the model's result is exactly the state the row prescribes — the
documented operands consumed (second item = left operand), the documented result on the
documented stack, nothing else touched; where the mathematical integer result is not
representable the row accepts any value. `scalar_sound_partial` proves it for every row outside the
known findings K03 / K04, `deviant_rows` says what the model does on those. -/
namespace Pushr.C04
open Pushr

/-- an integer result: whether or not the mathematical value fits, the row is met by the wrapped value -/
theorem applyRes_int (s1 : State) (v : Int) (x : Int32) (h : Int32.ofInt v = x) :
    applyRes (.int (inI32 v)) s1 x = { s1 with int := x :: s1.int } := by
  subst h
  unfold inI32
  split <;> rfl

/-- **C04 (full statement).** On the pinned tree this is FALSE on rows of `deviates` (the negation is proved for
BOOLEAN.FROMINTEGER and INTEGER.%: `k03_frominteger_violates`, `k04_mod_violates`; what the model does on all four is
`deviant_rows`); they are pinned by unit tests and recorded as known findings K03 / K04. -/
def ScalarSound (X : Ext) (ρ : Oracle) (i : Instr) : Prop :=
  ∀ (s : State) (r : Row), row i s = some r → sem X ρ i s = apply r s (pushedInt r s (sem X ρ i s))

/-- **C04, proved part**: the full statement for every table row outside K03 / K04 (for every
oracle and every extension of the instruction set). -/
theorem scalar_sound_partial (X : Ext) (ρ : Oracle) (i : Instr) (hk : deviates i = false) :
    ScalarSound X ρ i := by
  intro s r h
  -- with the fields of the state as variables, opening the table substitutes the operands it names,
  -- and the model and the row both compute on the result
  cases s
  unfold row at h
  split at h
  all_goals first | cases h | (dsimp only at h; split at h <;> cases h)
  all_goals cases hk
  all_goals dsimp only [sem, semBool, semInt, semFloat, semName, semCode, bin2, un1, Lens.bool, Lens.int,
    Lens.float, Lens.name, apply, popped, pushInt, pushBool, pushFloat, pushName, pushCode, pushedInt, List.drop,
    i32Abs]
  -- a row that demands the very value the model pushes holds by computation;
  -- left are the rows that state an `i32` result in ℤ, and the guarded ones
  all_goals try rfl
  -- INTEGER.+ - *
  · rw [applyRes_int _ _ _ (L.ofInt_add' _ _)]
  · rw [applyRes_int _ _ _ (L.ofInt_sub' _ _)]
  · rw [applyRes_int _ _ _ (L.ofInt_mul' _ _)]
  -- INTEGER./
  · rw [L.i32_bne_zero]
    split
    · next hb => rw [if_neg (by simpa using hb), tdiv, applyRes_int _ _ _ (L.ofInt_tdiv' _ _)]
    · next hb => rw [if_pos (by simpa using hb)]; rfl
  -- INTEGER.< = >
  · simp only [applyRes, L.i32_lt_toInt]
  · simp only [applyRes, L.i32_beq_toInt]
  · simp only [applyRes, GT.gt, L.i32_lt_toInt]
  -- INTEGER.ABS MAX MIN
  · rw [applyRes_int _ _ _ (L.ofInt_natAbs' _)]
  · simp only [applyRes, GT.gt, L.ofInt_max']
  · simp only [applyRes, GT.gt, L.ofInt_min']
  -- INTEGER.FROMBOOLEAN FROMFLOAT
  · rename_i b _; cases b <;> rfl
  · split
    · rw [applyRes, Int32.ofInt_toInt]
    · rfl
  -- FLOAT./
  · rename_i b a _
    cases hb : b == 0 <;> simp only [bne, hb] <;> rfl
  -- x.ID
  · rw [semStk_eq, applyRes, Int32.ofInt_toInt]; rfl

theorem zero_divisor_no_result (X : Ext) (ρ : Oracle) (s : State) (a : Int32) (l : List Int32)
    (h : s.int = 0 :: a :: l) :
    sem X ρ (.integer .div) s = { s with int := l } ∧ sem X ρ (.integer .mod) s = { s with int := l } := by
  dsimp only [sem, semInt, bin2, Lens.int]
  rw [h]; exact ⟨rfl, rfl⟩

theorem second_is_left (X : Ext) (ρ : Oracle) (s : State) (a b : Int32) (l : List Int32)
    (h : s.int = b :: a :: l) :
    sem X ρ (.integer .sub) s = { s with int := (a - b) :: l } := by
  dsimp only [sem, semInt, bin2, Lens.int]
  rw [h]; rfl

/-- the model has no build-profile parameter: after the repairs every arithmetic primitive it uses
is the wrapping one, so the outcome cannot depend on overflow checking. Stated for INTEGER.+: the
result is the wrapped mathematical value. -/
theorem int_add_wraps (X : Ext) (ρ : Oracle) (s : State) (a b : Int32) (l : List Int32)
    (h : s.int = b :: a :: l) :
    sem X ρ (.integer .add) s = { s with int := Int32.ofInt (a.toInt + b.toInt) :: l } := by
  dsimp only [sem, semInt, bin2, Lens.int]
  rw [h, L.ofInt_add']; rfl

/-- on the four deviating rows the model (= the code as it is) follows `deviantRow` -/
theorem deviant_rows (X : Ext) (ρ : Oracle) (i : Instr) (s : State) (r : Row) (h : deviantRow i s = some r) :
    sem X ρ i s = apply r s (pushedInt r s (sem X ρ i s)) := by
  cases s
  unfold deviantRow at h
  split at h
  all_goals first | cases h | (dsimp only at h; split at h <;> cases h)
  all_goals dsimp only [sem, semBool, semInt, semFloat, bin2, Lens.int, Lens.float, apply, popped, pushInt,
    pushBool, pushFloat, pushedInt, List.drop]
  -- BOOLEAN.FROMFLOAT FROMINTEGER
  · rfl
  · simp only [applyRes, L.i32_beq_zero]
  -- INTEGER.% FLOAT.%
  · rw [L.i32_bne_zero]
    split
    · next hb => rw [if_neg (by simpa using hb), tmod, applyRes_int _ _ _ (L.ofInt_tmod' _ _)]
    · next hb => rw [if_pos (by simpa using hb)]; rfl
  · rename_i b a _
    cases hb : b == 0 <;> simp only [bne, hb] <;> rfl

/-- K03: the full statement fails for BOOLEAN.FROMINTEGER (TRUE is pushed for zero) -/
theorem k03_frominteger_violates (X : Ext) (ρ : Oracle) : ¬ ScalarSound X ρ (.boolean .frominteger) := by
  intro h
  have := h { (default : State) with int := [0] } _ rfl
  have hb := congrArg State.bool this
  simp [sem, semBool, apply, applyRes, popped, pushBool] at hb

/-- K04: the full statement fails for INTEGER.% (`-13 % 10` is `-3`, the documented floored modulus is `7`) -/
theorem k04_mod_violates (X : Ext) (ρ : Oracle) : ¬ ScalarSound X ρ (.integer .mod) := by
  intro h
  have := h { (default : State) with int := [10, -13] } _ rfl
  have hb := congrArg State.int this
  revert hb
  simp [sem, semInt, bin2, Lens.int, apply, applyRes, popped, pushInt, inI32]

/-! non-vacuity of `scalar_sound_partial` -/
example : ∃ r, row (.integer .add) { (default : State) with int := [1, 2] } = some r := ⟨_, rfl⟩

end Pushr.C04
