import Pushr.Props.C15_More
import Pushr.Props.C18
/-! # C15 (supplement) — the growth bound for the GRAPH family, and the proved part over all covered families -/
namespace Pushr.C15
open Pushr Pushr.Graph

open scoped Peel

theorem insertKey_sum_le {β : Type} (f : Nat × β → Nat) (k : Nat) (v : β) (m : List (Nat × β)) :
    sumMap f (insertKey k v m) ≤ sumMap f m + f (k, v) := by
  obtain ⟨m', hs, hp⟩ := C18.insertKey_perm k v m
  have := sumMap_sublist f hs
  rw [sumMap_perm f hp, sumMap_cons]; omega

theorem insertKey_length_le {β : Type} (k : Nat) (v : β) (m : List (Nat × β)) :
    (insertKey k v m).length ≤ m.length + 1 := by
  simpa using insertKey_sum_le (fun _ => 1) k v m

theorem lookupKey_sum_le {β : Type} (f : Nat × β → Nat) (k : Nat) (v : β) (m : List (Nat × β))
    (h : lookupKey k m = some v) : f (k, v) ≤ sumMap f m :=
  sumMap_mem_le f (C18.mem_of_lookup h)

def eW (p : Nat × List Edge) : Nat := 1 + p.2.length

theorem graphWeight_eq (g : Graph) : graphWeight g = g.nodes.length + sumMap eW g.edges := rfl

theorem gw_addNode (g : Graph) (id : Nat) (st : Int32) : graphWeight (g.addNode id st) ≤ graphWeight g + 1 := by
  have := insertKey_length_le id st g.nodes
  simp only [graphWeight_eq, addNode]; omega

theorem gw_setState (g : Graph) (id : Nat) (st : Int32) : graphWeight (g.setState id st) ≤ graphWeight g + 1 := by
  rw [C18.setState_eq]; split
  · exact gw_addNode g id st
  · omega

/-- an edge operation replaces the incoming list of one node (`C18.setIn`, see `C18.addEdge_eq`) -/
theorem gw_setIn (g : Graph) (d : Nat) (l : List Edge) : graphWeight (C18.setIn g d l) ≤ graphWeight g + 1 + l.length := by
  have := insertKey_sum_le eW d l g.edges
  simp only [graphWeight_eq, C18.setIn, eW] at this ⊢; omega

theorem inList_length_le (g : Graph) (d : Nat) : (C18.inList g d).length ≤ graphWeight g := by
  unfold C18.inList
  cases h : lookupKey d g.edges with
  | none => exact Nat.zero_le _
  | some l => have := lookupKey_sum_le eW d l g.edges h; simp only [graphWeight_eq, eW, Option.getD] at this ⊢; omega

/-- an edge operation (see `C18.addEdge_eq`) puts in the place of an incoming list one that is longer by one edge at most -/
theorem gw_setIn_inList (g : Graph) (d : Nat) (l : List Edge) (hl : l.length ≤ (C18.inList g d).length + 1) :
    graphWeight (C18.setIn g d l) ≤ 2 * graphWeight g + 2 := by
  have h1 := gw_setIn g d l
  have h2 := inList_length_le g d
  omega

theorem gw_addEdge (g : Graph) (o d : Nat) (w : Float32) : graphWeight (g.addEdge o d w) ≤ 2 * graphWeight g + 2 := by
  rw [C18.addEdge_eq]; split
  · exact gw_setIn_inList g d _ (by simp)
  · omega

theorem gw_setWeight (g : Graph) (o d : Nat) (w : Float32) : graphWeight (g.setWeight o d w) ≤ 2 * graphWeight g + 2 := by
  rw [C18.setWeight_eq]; split
  · exact gw_setIn_inList g d _ (by simp)
  · omega

theorem gw_switch (ids : List Int32) (bs : List Bool) (on off : Int32) (g : Graph) :
    graphWeight (switchStates g ids bs on off) ≤ graphWeight g + ids.length := by
  fun_induction switchStates g ids bs on off with
  | case1 g id ids b bs on off ih =>
    have h2 : graphWeight (withId id g fun n => g.setState n (if b then on else off)) ≤ graphWeight g + 1 := by
      unfold withId; split
      · exact gw_setState _ _ _
      · omega
    simp; omega
  | case2 => omega

theorem graphAt_le (s : State) (pos : Nat) (g : Graph) (h : graphAt s pos = some g) :
    1 + graphWeight g ≤ sumMap (fun g => 1 + graphWeight g) s.graph.items :=
  sumMap_mem_le (fun g => 1 + graphWeight g) (by simpa using List.mem_of_getElem? h)

theorem push_items_sum {α : Type} (f : α → Nat) (b : Buf α) (x : α) : sumMap f (b.push x).items ≤ sumMap f b.items + f x := by
  unfold Buf.push; split <;> simp [sumMap_append]

theorem top_split (s : State) (g : Graph) (h : graphAt s 0 = some g) :
    ∃ init, s.graph.items = init ++ [g] := by
  rw [graphAt, Buf.getStack, ← List.head?_eq_getElem?, List.head?_reverse] at h
  exact List.getLast?_eq_some_iff.mp h

theorem modGraphTop_weight (s : State) (f : Graph → Graph) (c : Nat)
    (hf : ∀ g, graphWeight (f g) ≤ 2 * graphWeight g + c) : weight (modGraphTop s f) ≤ 2 * weight s + c := by
  unfold modGraphTop
  split
  · next g hg =>
    obtain ⟨init, hi⟩ := List.getLast?_eq_some_iff.mp hg
    have := hf g
    simp [R, hi, sumMap_append]; omega
  · omega

/-- `s'` is the state with the operands popped: what they weighed pays for the constant `c` of the graph operation (`hs`) -/
theorem modGraphTop_le {s' : State} {f : Graph → Graph} {B : Nat} (c : Nat)
    (hf : ∀ g, graphWeight (f g) ≤ 2 * graphWeight g + c) (hs : 2 * weight s' + c ≤ B) : weight (modGraphTop s' f) ≤ B :=
  Nat.le_trans (modGraphTop_weight s' f c hf) hs

theorem eW_split (m : List (Nat × List Edge)) : sumMap eW m = m.length + sumMap (fun p => p.2.length) m := by
  induction m with
  | nil => simp
  | cons a t ih => simp [eW] at ih ⊢; omega

/-- predecessors come from ONE incoming list, successors from distinct incoming lists: together no more than the graph -/
theorem nb_length_le (g : Graph) (id : Nat) (states : List Int32) :
    (g.predecessors id states).length + (g.successors id states).length ≤ graphWeight g := by
  have hs : (g.successors id states).length ≤ g.edges.length := by
    unfold successors; exact List.length_filterMap_le _ _
  have hp : (g.predecessors id states).length ≤ sumMap (fun p : Nat × List Edge => p.2.length) g.edges := by
    unfold predecessors
    split
    · next l hl =>
      have h2 := lookupKey_sum_le (fun p : Nat × List Edge => p.2.length) id l g.edges hl
      exact Nat.le_trans (List.length_filterMap_le _ _) h2
    · simp
  rw [graphWeight_eq, eW_split]; omega

/-- GRAPH instructions other than NODES / NODES*HISTORY (an id is repeated once per repeated state value: quadratic)
and the two printing instructions (characters): one graph is copied or grows by one node / edge, or a query result
no larger than the graph is pushed -/
theorem graph_growth (o : GraphOp) (s : State)
    (h : o ≠ .nodes ∧ o ≠ .nodesHistory ∧ o ≠ .print ∧ o ≠ .printDiff) : weight (semGraph o s) ≤ 2 * weight s + 4 := by
  cases o <;> simp only [semGraph]
  case nodes | nodesHistory | print | printDiff => simp at h
  case add =>
    have := push_items_sum (fun g => 1 + graphWeight g) s.graph Graph.empty
    simp [R, graphWeight, Graph.empty] at this ⊢; omega
  case dup =>
    split
    · next g hg =>
      have := push_items_sum (fun g => 1 + graphWeight g) s.graph g
      have := graphAt_le s 0 g hg
      simp [R] at *; omega
    · omega
  -- the five that rewrite the top graph: `simp` closes every branch but the one with every operand, which `next` opens
  -- with the variables of its patterns (two for the edge instructions: both ids are node numbers, or one is not)
  case nodeAdd =>
    (repeat' split) <;> try (simp +arith [*]; done)
    next st _ _ =>
      exact modGraphTop_le 1 (fun g => by have := gw_addNode g s.nextId st; omega) (by simp +arith [*])
  case nodeStateSwitch =>
    (repeat' split) <;> try (simp +arith [*]; done)
    -- one node entry per id at most; the id vector that left INTVECTOR weighed `1 + ids.length`
    next ids _ _ _ sw _ _ _ off on _ _ =>
      exact modGraphTop_le ids.length (fun g => by have := gw_switch ids sw on off g; omega) (by simp [*]; omega)
  case nodeSetState =>
    (repeat' split) <;> try (simp +arith [*]; done)
    next st id _ _ _ =>
      exact modGraphTop_le 1 (fun g => by have := gw_setState g id.toInt.toNat st; omega) (by simp [*]; omega)
  case edgeAdd =>
    (repeat' split) <;> try (simp +arith [*]; done)
    · exact modGraphTop_le 2 (fun g => gw_addEdge g _ _ _) (by simp [*]; omega)
    · exact modGraphTop_le 2 (fun g => by omega) (by simp [*]; omega)
  case edgeSetWeight =>
    (repeat' split) <;> try (simp +arith [*]; done)
    · exact modGraphTop_le 2 (fun g => gw_setWeight g _ _ _) (by simp [*]; omega)
    · exact modGraphTop_le 2 (fun g => by omega) (by simp [*]; omega)
  case nodePredecessors | nodeSuccessors | nodeNeighbors =>
    (repeat' split) <;> try (simp +arith [*]; done)
    next g hg _ states _ _ _ id _ _ _ =>
      have hg' := graphAt_le s 0 g hg
      have := nb_length_le g id.toInt.toNat states
      simp [*, R] at this hg' ⊢; omega
  all_goals (repeat' split) <;> simp +arith [*]

def covered3 : Instr → Bool
  | .graph o => o != .nodes && o != .nodesHistory && o != .print && o != .printDiff
  | i => covered2 i

/-- **C15, proved part**: 257 of the 280 registered instructions grow the state in one step by at most
a copy of what it already holds plus a constant, whatever the operand values. Not covered: the operand-sized ones of
finding K05 (ONES, ZEROS, vector RAND, SINE, LIST.NEIGHBOR*, CODE.RAND), NAME.RAND / RANDBOUNDNAME (text from a
crate), CODE.SUBST and GRAPH.NODES / NODES*HISTORY (quadratic), the three printing instructions (characters) -/
theorem growth_bounded_partial3 (ρ : Oracle) (i : Instr) (s : State) (h : covered3 i = true) :
    weight (semFull ρ i s) ≤ 2 * weight s + 4 := by
  cases i with
  | noop | unknown _ => exact Nat.le_trans (Nat.le_mul_of_pos_left _ (by decide)) (Nat.le_add_right _ _)
  | stk t o => exact Nat.le_trans (stk_growth t o s) (by omega)
  | define t => exact Nat.le_trans (define_growth t s) (by omega)
  | boolean o => exact Nat.le_trans (bool_growth ρ o s) (by omega)
  | integer o => exact Nat.le_trans (int_growth ρ o s) (by omega)
  | float o => exact Nat.le_trans (float_growth ρ o s) (by omega)
  | index o => exact Nat.le_trans (index_growth o s) (by omega)
  | name o => exact Nat.le_trans (name_growth ρ o s (by simpa [covered3, covered2, covered] using h)) (by omega)
  | code o => exact code_growth _ ρ o s (by simpa [covered3, covered2, covered, and_assoc] using h)
  | exec o => exact exec_growth o s
  | io o => exact io_growth o s
  | list o => exact list_growth o s (by simpa [covered3, covered2, and_assoc] using h)
  | graph o => exact graph_growth o s (by simpa [covered3, and_assoc] using h)
  | vec t o =>
    cases t with
    | b => exact vecB_growth _ ρ o s (by simpa [covered3, covered2, and_assoc] using h)
    | i => exact vecI_growth _ ρ o s (by simpa [covered3, covered2, and_assoc] using h)
    | f => exact vecF_growth _ ρ o s (by simpa [covered3, covered2, and_assoc] using h)

set_option maxRecDepth 8000 in
example : (Instr.all.filter covered3).length = 257 := by decide

end Pushr.C15
