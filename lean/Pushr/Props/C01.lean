import Pushr.Risky
import Pushr.Props.C08
import Pushr.Props.C10
import Pushr.Props.C05
import Pushr.Lemmas.Rs
/-! # C01 — any Push program executes without crashing the host

The interpreter model (`step`, `run`, `semFull`) is built from total functions, so "returns
normally" is not a statement about it; the content of C01 is that every place where the Rust code
indexes, slices, divides, asserts or samples a range is guarded. Those places are modelled with
explicit panics (`Pushr.Risky`, `Pushr.PStack` for the stack container, `Pushr.Ring` for the ring
buffer) and proved never to fail and to equal the total definitions — for all operands. Together
with the refinements of C16 (every `PushStack` method) and C17 (every `PushBuffer` method) this
covers every panic site listed in the property's anchors. -/
namespace Pushr.C01
open Pushr Pushr.Risky

variable {α : Type}

/-- vector GET never indexes out of bounds, whatever the index operand -/
theorem vecGet0_eq (v : List α) (i : Int32) : vecGet0 v i = .ok (v[clampIdx v.length i]?) := by
  cases v with
  | nil => rfl
  | cons a t =>
    have h0 : (a :: t).length > 0 := Nat.succ_pos _
    have hlt := C05.clampIdx_lt _ i h0
    rw [vecGet0, if_pos h0, RVec.idx_ok _ _ hlt, List.getElem?_eq_getElem hlt]
    rfl

theorem vecGet0_ok (v : List α) (i : Int32) : vecGet0 v i = .ok (v[clampIdx v.length i]?) ∨
    (v = [] ∧ vecGet0 v i = .ok none) := .inl (vecGet0_eq v i)

/-- vector SET never indexes out of bounds -/
theorem vecSet0_ok (v : List α) (i : Int32) (x : α) : vecSet0 v i x = .ok (vecSetAt v i x) := by
  cases v with
  | nil => rfl
  | cons a t =>
    have h0 : (a :: t).length > 0 := Nat.succ_pos _
    rw [vecSet0, if_pos h0, RVec.set_ok (C05.clampIdx_lt _ i h0)]
    rfl

theorem overlapStep0_ok (op : α → α → α) (off : Int) (top acc : List α) (i : Nat) (t : α) (hi : top[i]? = some t) :
    overlapStep0 op off top acc i = .ok (overlapStep op off acc (t, i)) := by
  unfold overlapStep0 overlapStep
  split
  · next hb =>
    -- outside `acc`: the total step sees a negative position or finds no element there
    split
    · next h0 => rw [List.getElem?_eq_none ((Int.le_toNat h0).mpr (hb.resolve_left (Int.not_lt.mpr h0)))]
    · rfl
  · next hb =>
    have h0 := Int.not_lt.mp (not_or.mp hb).1
    have hlt := (Int.toNat_lt h0).mpr (Int.not_le.mp (not_or.mp hb).2)
    rw [if_pos h0, List.getElem?_eq_getElem hlt, RVec.idx_some hi, RVec.idx_ok _ _ hlt]
    exact RVec.set_ok hlt

/-- the whole element-wise loop: no index panic for any pair of lengths and any offset, and the
result (at `k = 0`) is `overlapLoop`, hence (C09) the README rule -/
theorem overlapLoop0_ok (op : α → α → α) (off : Int) (top : List α) :
    ∀ (k : Nat) (acc : List α),
      overlapLoop0 op off top ((List.range' k (top.length - k))) acc
        = .ok (((top.drop k).zipIdx k).foldl (overlapStep op off) acc) := by
  intro k
  induction hn : top.length - k generalizing k with
  | zero =>
    intro acc
    rw [List.drop_eq_nil_of_le (Nat.le_of_sub_eq_zero hn)]; rfl
  | succ n ih =>
    intro acc
    have hk : k < top.length := Nat.lt_of_sub_eq_succ hn
    rw [List.range'_succ, overlapLoop0, overlapStep0_ok op off top acc k top[k] (List.getElem?_eq_getElem hk),
      List.drop_eq_getElem_cons hk, List.zipIdx_cons, List.foldl_cons]
    exact ih (k + 1) (by rw [Nat.sub_succ, hn]; rfl) _

/-- ROTATE cannot trip the `rotate_left` assertion nor underflow `n - 1` -/
theorem rotate0_ok (v : List α) (x : α) : rotate0 v x = .ok (rotateIn v x) := by
  cases v with
  | nil => rfl
  | cons a t =>
    -- rotated, the vector is `t ++ [a]`; its last slot, `t.length`, is the one written
    have h0 : (a :: t).length > 0 := Nat.succ_pos _
    rw [rotate0, if_pos h0, if_neg (Nat.not_lt.mpr h0)]
    show (Usize.sub (t ++ [a]).length 1 >>= fun k => RVec.set (t ++ [a]) k x) = .ok (t ++ [x])
    rw [List.length_append, List.length_singleton, Usize.sub_ok (Nat.le_add_left 1 _), Nat.add_sub_cancel]
    show RVec.set (t ++ [a]) t.length x = _
    rw [RVec.set_ok (by simp), List.set_append_right _ _ (Nat.le_refl _), Nat.sub_self]
    rfl

/-- CODE.NTH cannot underflow `idx - 1` -/
theorem nth0_ok (xs : List Item) (idx : Nat) :
    nth0 xs idx = .ok (if idx > 0 then xs[idx - 1]? else none) := by
  unfold nth0
  split
  · next h => rw [Usize.sub_ok h]; rfl
  · rfl

/-- the guarded integer division can never see a zero divisor, and `MIN / -1` wraps -/
theorem intDiv0_ok (a b : Int32) : intDiv0 a b = .ok (if b != 0 then some (a / b) else none) := by
  -- the guard `b != 0` and the panic test `b == 0` of `div0` are one test
  unfold intDiv0 div0 bne
  cases b == 0 <;> rfl

theorem remEuclid0_pos (i : Int32) {n : Nat} (h : 0 < n) : remEuclid0 i n = .ok (remEuclid i n) :=
  if_neg fun e => Nat.ne_of_gt h (eq_of_beq e)

/-- CODE.EXTRACT / NTH normalise with a divisor that is never zero: every item has at least one point -/
theorem remEuclid0_ok (i : Int32) (t : Item) : remEuclid0 i t.size = .ok (remEuclid i t.size) :=
  remEuclid0_pos i (C08.size_pos t)

theorem remEuclid0_shallow_ok (i : Int32) (t : Item) : remEuclid0 i t.shallowSize = .ok (remEuclid i t.shallowSize) :=
  remEuclid0_pos i (by cases t <;> exact Nat.succ_pos _)

theorem genRange0_ok {lo hi : Int} (h : lo < hi) : genRange0 lo hi = .ok () := if_pos h

/-- INTEGER.RAND samples only from a non-empty range (`h` is its guard) -/
theorem int_rand_range_ok (s : State) (h : s.cfg.minRandInt < s.cfg.maxRandInt) :
    genRange0 s.cfg.minRandInt.toInt s.cfg.maxRandInt.toInt = .ok () :=
  genRange0_ok (Int32.lt_iff_toInt_lt.mp h)

/-- `random_code` samples its size from `1..max_points` only when that range is non-empty
(the repaired guard `max_points > 1`) -/
theorem random_code_range_ok (m : Nat) (h : m > 1) : genRange0 1 m = .ok () :=
  genRange0_ok (Int.ofNat_lt.mpr h)

/-- the outcome of `run` is always one of the four documented ones (the type `Outcome`) and the step
count is bounded (C02 / C10) -/
theorem run_total (ρ : Oracle) (timeout : Nat → Bool) (s : State) :
    ∃ o k s', runFull ρ timeout s = (o, k, s') ∧ (k : Int) ≤ max (s.cfg.evalPushLimit.toInt + 1) 0 :=
  ⟨_, _, _, rfl, C10.run_steps_le_full ρ timeout s⟩

theorem inapplicable_is_harmless (ρ : Oracle) (i : Instr) (s : State) (h : C10.operandsMet i s = false) :
    C10.PopsOnly s (semFull ρ i s) := C10.unfired_only_pops ρ i s h

theorem unknown_ignored (ρ : Oracle) (n : String) (s : State) : semFull ρ (.unknown n) s = s := rfl

/-! non-vacuity: the most negative offset, and a rotation of the empty vector -/
example : overlapLoop0 (· + ·) (-2147483648) [1, 2, 3] [0, 1, 2] ([10] : List Int) = .ok [10] := by rfl
example : rotate0 ([] : List Nat) 7 = .ok [] := by rfl

end Pushr.C01
