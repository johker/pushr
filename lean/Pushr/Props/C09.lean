import Pushr.Full
import Pushr.Spec.C09
/-! # C09 — vector instructions follow the README rules for lengths, offsets and indices

`overlap_loop_eq_spec`: the element-wise loop as written (in-place update of the second vector while
iterating over the top vector's indices shifted by the offset) equals the declarative rule
`result[j] = op second[j] top[j - off]` where the shifted top vector overlaps and `second[j]`
elsewhere — for every pair of lengths and every offset. -/
namespace Pushr.C09
open Pushr

variable {α : Type}

theorem overlapStep_length (op : α → α → α) (off : Int) (acc : List α) (it : α × Nat) :
    (overlapStep op off acc it).length = acc.length := by
  unfold overlapStep; split <;> (try split) <;> simp

theorem foldl_length (op : α → α → α) (off : Int) (its : List (α × Nat)) (acc : List α) :
    (its.foldl (overlapStep op off) acc).length = acc.length := by
  induction its generalizing acc with
  | nil => rfl
  | cons it its ih => simp [List.foldl, ih, overlapStep_length]

theorem overlap_length (op : α → α → α) (second top : List α) (off : Int) :
    (overlapLoop op second top off).length = second.length := foldl_length ..

theorem overlapStep_getElem? (op : α → α → α) (off : Int) (acc : List α) (t : α) (k j : Nat) :
    (overlapStep op off acc (t, k))[j]? = (acc[j]?).map fun a => if (j : Int) - off = k then op a t else a := by
  unfold overlapStep
  by_cases hk : (j : Int) - off = k
  · obtain rfl : ((k : Int) + off).toNat = j := by omega
    simp only [show 0 ≤ (k : Int) + off by omega, hk, if_true]
    cases ha : acc[((k : Int) + off).toNat]? with
    | none => simp [ha]
    | some a0 => simp [(List.getElem?_eq_some_iff.mp ha).1]
  · simp only [hk, if_false, Option.map_id']
    split
    · split
      · rw [List.getElem?_set_ne (by omega)]
      · rfl
    · rfl

/-- loop invariant: after processing `l` (whose first element has index `k`), position `j` holds
`op` of the old value with the element of `l` that lands on it, if any -/
theorem foldl_getElem? (op : α → α → α) (off : Int) (l : List α) :
    ∀ (k : Nat) (acc : List α) (j : Nat),
      ((l.zipIdx k).foldl (overlapStep op off) acc)[j]? =
        (acc[j]?).map fun a =>
          if (k : Int) ≤ (j : Int) - off then
            match l[((j : Int) - off - k).toNat]? with
            | some t => op a t
            | none => a
          else a := by
  induction l with
  | nil => intro k acc j; cases h : acc[j]? <;> simp [h]
  | cons t l ih =>
    intro k acc j
    rw [List.zipIdx_cons, List.foldl_cons, ih (k + 1), overlapStep_getElem?]
    cases acc[j]? with
    | none => rfl
    | some a =>
      simp only [Option.map_some]
      -- position `j` receives `t` now, an element of `l` later, or nothing
      by_cases hk : (j : Int) - off = k
      · rw [if_neg (show ¬ ((k + 1 : Nat) : Int) ≤ (j : Int) - off by omega)]
        simp [hk]
      · by_cases hk1 : ((k + 1 : Nat) : Int) ≤ (j : Int) - off
        · have : ((j : Int) - off - k).toNat = ((j : Int) - off - ((k + 1 : Nat) : Int)).toNat + 1 := by omega
          simp only [hk, hk1, this, show (k : Int) ≤ (j : Int) - off by omega, if_true, if_false, List.getElem?_cons_succ]
        · simp only [hk, hk1, show ¬ (k : Int) ≤ (j : Int) - off by omega, if_false]

theorem overlapSpec_getElem? (op : α → α → α) (second top : List α) (off : Int) (j : Nat) :
    (overlapSpec op second top off)[j]? = (second[j]?).map fun a =>
      if 0 ≤ (j : Int) - off then
        match top[((j : Int) - off).toNat]? with
        | some t => op a t
        | none => a
      else a := by
  simp only [overlapSpec, List.getElem?_map, List.getElem?_zipIdx, Nat.zero_add, Option.map_map]
  rfl

/-- **C09.** the loop as written equals the README rule, for all lengths and offsets -/
theorem overlap_loop_eq_spec (op : α → α → α) (second top : List α) (off : Int) :
    overlapLoop op second top off = overlapSpec op second top off := by
  apply List.ext_getElem?
  intro j
  rw [overlapLoop, foldl_getElem? op off top 0 second j, overlapSpec_getElem?]
  simp only [Int.natCast_zero, Int.sub_zero]

theorem overlap_outside_unchanged (op : α → α → α) (second top : List α) (off : Int) (j : Nat)
    (h : (j : Int) - off < 0 ∨ (top.length : Int) ≤ (j : Int) - off) :
    (overlapLoop op second top off)[j]? = second[j]? := by
  rw [overlap_loop_eq_spec, overlapSpec_getElem?]
  cases second[j]? with
  | none => rfl
  | some a =>
    rw [Option.map_some]
    split
    · rw [List.getElem?_eq_none (by omega)]
    · rfl

/-- the clamped index of GET / SET is inside every non-empty vector -/
theorem clamp_in_bounds (len : Nat) (i : Int32) (h : 0 < len) : vecIdx len i < len := by
  unfold vecIdx clampIdx; omega

theorem vecSetAt_length (v : List α) (i : Int32) (x : α) : (vecSetAt v i x).length = v.length := by
  unfold vecSetAt; split <;> simp

theorem rotateIn_length (v : List α) (x : α) : (rotateIn v x).length = v.length := by
  cases v <;> simp [rotateIn]

theorem rotateIn_spec (a : α) (v : List α) (x : α) : rotateIn (a :: v) x = v ++ [x] := rfl

/-- SORT yields a permutation of the vector (`sort*_perm`), ordered for INTVECTOR and FLOATVECTOR (`sort*_sorted`) -/
theorem sortI32_perm (v : List Int32) : (sortI32 v).Perm v := List.mergeSort_perm v _

theorem sortF32_perm (v : List Float32) : (sortF32 v).Perm v := List.mergeSort_perm v _
theorem sortBool_perm (v : List Bool) : (sortBool v).Perm v := List.mergeSort_perm v _

theorem pairwise_mergeSort {r : α → α → Prop} [DecidableRel r] (tr : ∀ a b c, r a b → r b c → r a c)
    (tot : ∀ a b, r a b ∨ r b a) (v : List α) : (v.mergeSort fun a b => decide (r a b)).Pairwise r := by
  have := List.pairwise_mergeSort (le := fun a b => decide (r a b))
    (fun a b c hab hbc => by simp only [decide_eq_true_eq] at *; exact tr a b c hab hbc)
    (fun a b => by simpa using tot a b) v
  simpa using this

theorem sortI32_sorted (v : List Int32) : (sortI32 v).Pairwise (fun a b => a ≤ b) :=
  pairwise_mergeSort (r := fun a b => a ≤ b) (fun _ _ _ => Int32.le_trans) Int32.le_total v

/-- NaN cannot make sorting fail: the key is a total order on bit patterns -/
theorem sortF32_sorted (v : List Float32) : (sortF32 v).Pairwise (fun a b => totalKey a ≤ totalKey b) :=
  pairwise_mergeSort (r := fun a b => totalKey a ≤ totalKey b) (fun _ _ _ => Nat.le_trans)
    (fun _ _ => Nat.le_total ..) v

/-! ## the remaining vector instructions that have a closed form meet it (`Spec/C09.vecExpect`)

Each statement below says what the length of the result is and what every single element is (`tab`, `eq_tab`).
`vecExpect` has no row, hence `vec_sound` says nothing, for FLOATVECTOR.SUM / MEAN / = and INTVECTOR.MEAN. -/

theorem tab_length (n : Nat) (f : Nat → α) : (tab n f).length = n := by simp [tab]

theorem tab_getElem? (n : Nat) (f : Nat → α) (j : Nat) : (tab n f)[j]? = if j < n then some (f j) else none := by
  unfold tab
  by_cases h : j < n <;> simp [h]

theorem eq_tab {v : List α} {n : Nat} {f : Nat → α} (hn : v.length = n) (h : ∀ j, j < n → v[j]? = some (f j)) :
    v = tab n f := by
  apply List.ext_getElem?
  intro j
  rw [tab_getElem?]
  split
  · exact h j ‹_›
  · exact List.getElem?_eq_none (by omega)

/-- the specifications read elements with a default that is never used inside the vector -/
theorem getElem?_eq_getD {v : List α} {j : Nat} (h : j < v.length) (d : α) : v[j]? = some (v.getD j d) := by
  rw [List.getD_eq_getElem?_getD, List.getElem?_eq_getElem h]; rfl

theorem replicate_eq_tab (n : Nat) (x : α) : List.replicate n x = tab n (fun _ => x) :=
  eq_tab List.length_replicate fun j hj => by simp [hj]

theorem append_eq_spec (v : List α) (x : α) : v ++ [x] = appendSpec v x :=
  eq_tab (by simp) fun j hj => by
    rw [List.getElem?_append]
    split
    · exact getElem?_eq_getD ‹_› x
    · simp [show j = v.length by omega]

theorem rotateIn_eq_spec (v : List α) (x : α) : rotateIn v x = rotateSpec v x := by
  cases v with
  | nil => rfl
  | cons a t => exact append_eq_spec t x

theorem vecSetAt_eq_spec (v : List α) (i : Int32) (x : α) : vecSetAt v i x = setSpec v i x := by
  unfold vecSetAt
  split
  · next h => simp at h; subst h; rfl
  · exact eq_tab (List.length_set ..) fun j hj => by
      rw [List.getElem?_set, vecIdx, getElem?_eq_getD hj x]
      by_cases hji : clampIdx v.length i = j
      · simp [hji, hj]
      · simp [hji, Ne.symm hji]

theorem map_eq_tab {β : Type} (g : α → β) (d : α) (v : List α) : v.map g = tab v.length fun j => g (v.getD j d) :=
  eq_tab (List.length_map ..) fun j hj => by rw [List.getElem?_map, getElem?_eq_getD hj d]; rfl

theorem notLoop_eq_spec (v : List Bool) (off : Int) : notLoop v off = notSpec v off :=
  eq_tab (by simp [notLoop]) fun j hj => by
    rw [notLoop, List.getElem?_map, List.getElem?_zipIdx, getElem?_eq_getD hj false]; simp

theorem foldl_add_eq (v : List Int32) (acc : Int32) :
    v.foldl (· + ·) acc = Int32.ofInt (acc.toInt + (v.map Int32.toInt).sum) := by
  induction v generalizing acc with
  | nil => simp [Int32.ofInt_toInt]
  | cons a t ih =>
    simp only [List.foldl_cons, List.map_cons, List.sum_cons]
    rw [ih]
    simp only [Int32.ofInt_add, Int32.ofInt_toInt, Int32.add_assoc]

theorem i32Sum_eq_spec (v : List Int32) : i32Sum v = sumSpec v := by
  unfold i32Sum sumSpec
  rw [foldl_add_eq]; simp

theorem boolIndex_aux (v : List Bool) (k : Nat) :
    ((v.zipIdx k).filterMap fun (b, i) => if b then some (lenI32 i) else none)
      = ((List.range' k v.length).filter fun j => v.getD (j - k) false).map lenI32 := by
  induction v generalizing k with
  | nil => rfl
  | cons b t ih =>
    have htail : (List.range' (k + 1) t.length).filter (fun j => (b :: t).getD (j - k) false)
        = (List.range' (k + 1) t.length).filter (fun j => t.getD (j - (k + 1)) false) :=
      List.filter_congr fun j hj => by
        obtain ⟨i, _, rfl⟩ := List.mem_range'.mp hj
        rw [show k + 1 + 1 * i - k = (k + 1 + 1 * i - (k + 1)) + 1 by omega]; rfl
    rw [List.zipIdx_cons, List.length_cons, List.range'_succ, List.filterMap_cons, List.filter_cons, Nat.sub_self,
      List.getD_cons_zero, ih, htail]
    cases b <;> rfl

theorem boolIndex_eq_spec (v : List Bool) :
    (v.zipIdx.filterMap fun (b, i) => if b then some (lenI32 i) else none) = boolIndexSpec v := by
  have := boolIndex_aux v 0
  simpa [boolIndexSpec, List.range_eq_range'] using this

/-- the count `k` is the clamp of GET / SET for a vector one longer than the stack -/
theorem fromInt_eq_spec (n : Int32) (il : List Int32) :
    fromIntSpec n il = ((il.take (clampIdx (il.length + 1) n)).reverse, il.drop (clampIdx (il.length + 1) n)) := by
  have hk : (max (min n.toInt il.length) 0).toNat = clampIdx (il.length + 1) n := by
    simp [clampIdx, Int.min_comm]
  have hle : clampIdx (il.length + 1) n ≤ il.length := by rw [← hk]; omega
  simp only [fromIntSpec, hk]
  generalize clampIdx (il.length + 1) n = k at hle
  have hl : (il.take k).length = k := by simp; omega
  rw [← eq_tab (by rw [List.length_reverse, hl]) fun j hj => by
    rw [List.getElem?_reverse (by omega), hl, List.getElem?_take_of_lt (by omega), getElem?_eq_getD (by omega)]]

theorem count_eq (v : List Bool) : (v.filter id).length = v.count true := by
  rw [List.count_eq_length_filter]
  congr 1
  apply List.filter_congr
  intro x _
  cases x <;> rfl

theorem zeroDiv_eq (second top : List Float32) (off : Int) :
    (top.zipIdx.any fun (t, i) =>
        let j : Int := (i : Int) + off
        decide (0 ≤ j) && decide (j.toNat < second.length) && t == 0)
      = zeroDivisorInOverlap second top off := by
  rw [Bool.eq_iff_iff]
  simp only [zeroDivisorInOverlap, List.any_eq_true, Bool.and_eq_true, decide_eq_true_eq, List.mem_range,
    Prod.exists, List.mem_zipIdx_iff_getElem?]
  -- either way: some zero `top[i]` lands on position `j = i + off` of `second`
  constructor
  · rintro ⟨t, i, hm, ⟨h0, h1⟩, ht⟩
    refine ⟨((i : Int) + off).toNat, h1, by omega, ?_⟩
    rw [show (((((i : Int) + off).toNat : Nat) : Int) - off).toNat = i by omega, hm]
    exact ht
  · rintro ⟨j, hj, h0, ht⟩
    split at ht
    · next t hq =>
      refine ⟨t, _, hq, ⟨by omega, ?_⟩, ht⟩
      rwa [show ((((j : Int) - off).toNat : Nat) : Int) + off = j by omega, Int.toNat_natCast]
    · cases ht

theorem divOverlap_eq_spec (second top : List Float32) (off : Int) :
    divOverlap second top off
      = if zeroDivisorInOverlap second top off then none else some (overlapSpec (· / ·) second top off) := by
  unfold divOverlap
  dsimp only
  rw [← zeroDiv_eq, overlap_loop_eq_spec]

theorem vec_sound (ρ : Oracle) (t : VTy) (o : VecOp) (s s' : State) (h : vecExpect t o s = some s') :
    semVec ρ t o s = s' := by
  -- with the fields of the state as variables, splitting a row substitutes the operands it names
  cases s
  cases t <;> cases o <;>
    dsimp only [vecExpect, genericExpect, kitB, kitI, kitF, Lens.bvec, Lens.ivec, Lens.fvec] at h <;>
    first | cases h | (split at h <;> cases h)
  -- the model computes on these operands ...
  all_goals dsimp only [semVec, semVecB, semVecI, semVecF, vecGet, modTop, elementwise, vecIdx, Lens.bvec, Lens.ivec,
    Lens.fvec, pushInt, pushBool, pushFloat, tab]
  -- ... and its list functions are the closed forms
  all_goals simp -failIfUnchanged only [replicate_eq_tab, rotateIn_eq_spec, vecSetAt_eq_spec, append_eq_spec,
    map_eq_tab (· * _) (0 : Float32), notLoop_eq_spec, i32Sum_eq_spec, boolIndex_eq_spec, count_eq, fromInt_eq_spec,
    divOverlap_eq_spec, tab, Bool.beq_eq_decide_eq, List.contains_eq_mem, bne, ne_eq, decide_not, decide_eq_true_eq, List.isEmpty_cons,
    List.isEmpty_nil, List.not_mem_nil, Bool.false_eq_true, ↓reduceIte]
  -- GET: model and closed form `match` on the element through different constants, equal branch by branch
  · split <;> simp only [*]
  · split <;> simp only [*]
  -- INTVECTOR.SETINSERT on an empty stack: `appendSpec [] x` computes to `[x]`
  · rfl
  · split <;> simp only [*]
  -- FLOATVECTOR./: both sides branch on the same test
  · generalize zeroDivisorInOverlap _ _ _ = z
    cases z <;> rfl

/-! non-vacuity: the closed forms on concrete vectors -/
example : rotateSpec [1, 2, 3] 9 = [2, 3, 9] := by decide
example : setSpec [1, 2, 3] 7 9 = [1, 2, 9] := by decide
example : setSpec [1, 2, 3] (-4) 9 = [9, 2, 3] := by decide
example : boolIndexSpec [true, false, true] = [0, 2] := by decide
example : fromIntSpec 2 [5, 6, 7] = ([6, 5], [7]) := by decide
example : fromIntSpec 9 [5, 6, 7] = ([7, 6, 5], []) := by decide
example : sumSpec [2147483647, 1] = -2147483648 := by decide
example : notSpec [true, true, true] 1 = [true, false, false] := by decide

/-! non-vacuity (unequal lengths, negative offset, top longer than second) -/
example : overlapLoop (· + ·) [10, 20, 30] [1, 2, 3, 4, 5] (-3) = [14, 25, 30] := by decide
example : overlapSpec (· + ·) [10, 20, 30] [1, 2, 3, 4, 5] (-3) = [14, 25, 30] := by decide
example : overlapLoop (· + ·) [10, 20, 30] [1] 1 = [10, 21, 30] := by decide

end Pushr.C09
