import Pushr.Props.C10
/-! # C14 (supplement): node identifiers inside the full instruction semantics

`C14.ids_distinct` is about the allocator alone (`fetch_add` under an arbitrary schedule). Here the counter is followed
through the INSTRUCTIONS: no instruction of the registry ever lowers the counter (no id is ever given back), only
GRAPH.NODE*ADD raises it, by exactly one, and the id it hands out is the old counter value.
Hence the ids a program hands out, in any run of any length, are strictly increasing - never handed out twice. -/
open Pushr
namespace Pushr.C14

theorem nid_graph (o : GraphOp) (s : State) (ho : o ≠ .nodeAdd) : (semGraph o s).nextId = s.nextId := by
  -- no branch of another graph instruction writes `nextId`; `modGraphTop` rewrites `graph.items` only
  cases o
  case nodeAdd => exact absurd rfl ho
  all_goals simp only [semGraph, modGraphTop, pushInt, pushFloat, pushName] <;> (repeat' split) <;> rfl

theorem nodeAdd_spec (s : State) :
    semGraph .nodeAdd s = s ∨
    ((semGraph .nodeAdd s).nextId = s.nextId + 1 ∧ (semGraph .nodeAdd s).int.head? = some (lenI32 s.nextId)) := by
  simp only [semGraph]
  split
  · exact .inl rfl
  · split
    · exact .inl rfl
    · -- the counter is written by the record update; `modGraphTop` rewrites `graph.items` only, so the id stays on top
      exact .inr ⟨rfl, by unfold modGraphTop; split <;> rfl⟩

/-- **No instruction lowers the counter; only GRAPH.NODE*ADD raises it.** -/
theorem sem_nextId (ρ : Oracle) (i : Instr) (s : State) :
    (semFull ρ i s).nextId = s.nextId ∨
    (i = .graph .nodeAdd ∧ (semFull ρ i s).nextId = s.nextId + 1 ∧
      (semFull ρ i s).int.head? = some (lenI32 s.nextId)) := by
  cases i with
  | graph o =>
    by_cases ho : o = .nodeAdd
    · subst ho
      rcases nodeAdd_spec s with h | h
      · left; show (semGraph .nodeAdd s).nextId = s.nextId; rw [h]
      · exact .inr ⟨rfl, h⟩
    · exact .inl (nid_graph o s ho)
  | _ => exact .inl ((C10.sem_respects ρ _ s).frame.nextId (C10.graph_notin_footprint _ fun _ h => nomatch h))

theorem step_nextId (ρ : Oracle) (s : State) :
    (stepFull ρ s).2.nextId = s.nextId ∨ (stepFull ρ s).2.nextId = s.nextId + 1 := by
  unfold stepFull step
  split
  · exact .inl rfl
  next v e _ => left; cases v <;> rfl
  · left; simp only; (repeat' split) <;> rfl
  next i e _ =>
    rcases sem_nextId ρ i { s with exec := e } with h | h
    · exact .inl h
    · exact .inr h.2.1
  · exact .inl rfl

/-- the ids handed out during the first `n` steps, oldest first -/
def issued (ρ : Oracle) : Nat → State → List Nat
  | 0, _ => []
  | n + 1, s =>
    (if (stepFull ρ s).2.nextId = s.nextId then [] else [s.nextId]) ++ issued ρ n (stepFull ρ s).2

theorem stepN_nextId_mono (ρ : Oracle) (n : Nat) (s : State) : s.nextId ≤ (stepN fullExt ρ n s).nextId := by
  induction n generalizing s with
  | zero => exact Nat.le_refl _
  | succ n ih =>
    have h1 := step_nextId ρ s
    have h2 := ih (stepFull ρ s).2
    show s.nextId ≤ (stepN fullExt ρ n (stepFull ρ s).2).nextId
    omega

theorem issued_bounds (ρ : Oracle) (n : Nat) (s : State) :
    ∀ id ∈ issued ρ n s, s.nextId ≤ id ∧ id < (stepN fullExt ρ n s).nextId := by
  induction n generalizing s with
  | zero => intro id h; simp [issued] at h
  | succ n ih =>
    intro id h
    simp only [issued, List.mem_append] at h
    have h1 := step_nextId ρ s
    have hm := stepN_nextId_mono ρ n (stepFull ρ s).2
    show _ ∧ id < (stepN fullExt ρ n (stepFull ρ s).2).nextId
    rcases h with h | h
    · split at h
      · simp at h
      · simp at h
        omega
    · have := ih (stepFull ρ s).2 id h
      omega

/-- **C14 (identifiers, full semantics).** The node ids a program hands out - in any run, of any length, for any
oracle - are strictly increasing: no id is handed out twice. -/
theorem issued_increasing (ρ : Oracle) (n : Nat) (s : State) : (issued ρ n s).Pairwise (· < ·) := by
  induction n generalizing s with
  | zero => simp [issued]
  | succ n ih =>
    simp only [issued]
    rw [List.pairwise_append]
    refine ⟨by split <;> simp, ih _, ?_⟩
    intro a ha b hb
    split at ha
    · simp at ha
    · simp at ha
      have hb2 := (issued_bounds ρ n _ b hb).1
      have h1 := step_nextId ρ s
      omega

theorem issued_nodup (ρ : Oracle) (n : Nat) (s : State) : (issued ρ n s).Nodup :=
  (issued_increasing ρ n s).imp (fun h => Nat.ne_of_lt h)

/-- non-vacuity: a node added to a copy of the graph gets a new id -/
example :
    let g : Graph := Graph.empty
    let s : State := { (default : State) with
      graph := ({ cap := 4, items := [] } : Buf Graph).push g,
      exec := [.lit (.int 0), .instr (.graph .nodeAdd), .instr (.graph .dup), .lit (.int 0), .instr (.graph .nodeAdd)] }
    issued (fun _ => 0) 5 s = [1, 2] := by decide

end Pushr.C14
