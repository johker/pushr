import Pushr.Props.C08
/-! # C08 (supplement) — SUBST: the accounting of points (what "replaces all and only the maximal structural matches"
means for the size of the result) -/
namespace Pushr.C08
open Pushr

mutual
theorem equals_size (a b : Item) (h : Item.equals a b = true) : a.size = b.size := by
  cases a <;> cases b <;> simp only [Item.equals, Item.size, Bool.false_eq_true] at h ⊢
  rw [equalsL_size _ _ h]
theorem equalsL_size (xs ys : List Item) (h : Item.equalsL xs ys = true) : Item.sizeL xs = Item.sizeL ys := by
  cases xs <;> cases ys <;> simp only [Item.equalsL, Item.sizeL, Bool.false_eq_true, Bool.and_eq_true] at h ⊢
  rw [equals_size _ _ h.1, equalsL_size _ _ h.2]
end

mutual
/-- **the points add up**, as they must when every maximal structural match of the pattern — and nothing else — is
exchanged for the substitute -/
theorem subst_accounting (t p s : Item) :
    (Item.subst t p s).size + countMax t p * p.size = t.size + countMax t p * s.size := by
  unfold Item.subst countMax
  by_cases h : Item.equals t p = true
  · simp only [h, if_true, equals_size t p h]; omega
  · simp only [h, Bool.false_eq_true, if_false]
    cases t with
    | list xs => simp only [Item.size]; have := substL_accounting xs p s; omega
    | _ => simp
theorem substL_accounting (xs : List Item) (p s : Item) :
    Item.sizeL (Item.substL xs p s) + countMaxL xs p * p.size = Item.sizeL xs + countMaxL xs p * s.size := by
  cases xs with
  | nil => simp [Item.substL, countMaxL, Item.sizeL]
  | cons x xs =>
    simp only [Item.substL, countMaxL, Item.sizeL, Nat.add_mul]
    have := subst_accounting x p s
    have := substL_accounting xs p s
    omega
end

theorem subst_none (t p s : Item) (h : countMax t p = 0) : (Item.subst t p s).size = t.size := by
  simpa [h] using subst_accounting t p s

/-- the model's SUBST meets the evaluator's accounting -/
theorem substOk_size (t p s : Item) :
    ((Item.subst t p s).size + countMax t p * p.size == t.size + countMax t p * s.size) = true := by
  simp [subst_accounting]

/-- non-vacuity, on the self-similar witness: `B` for `( B X )` in `( ( B X ) X )` yields the pattern again -/
example : countMax (.list [.list [.ident "B", .ident "X"], .ident "X"]) (.list [.ident "B", .ident "X"]) = 1 := by decide

end Pushr.C08
