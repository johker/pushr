import Pushr.Props.C17
/-! # C17 (supplement) — peeking: the oldest and the newest live item -/
namespace Pushr.C17
open Pushr Ring
variable {α : Type} [Inhabited α]

theorem peekOldest_refines (r : Ring α) (h : Inv r) : r.peekOldest = (abs r).head? := by
  have := cont_slot r h 0
  rw [Nat.add_zero, Nat.mod_eq_of_lt h.fin_lt] at this
  rw [List.head?_eq_getElem?, abs_getElem?, peekOldest, this, Nat.add_zero, Nat.mod_eq_of_lt h.fin_lt]
  by_cases h0 : r.len = 0 <;> simp [h0]

/-- also when the write cursor has wrapped to 0 -/
theorem peekNewest_refines (r : Ring α) (h : Inv r) : r.peekNewest = (abs r).getLast? := by
  rw [List.getLast?_eq_getElem?, abs_length, abs_getElem?, peekNewest]
  by_cases h0 : r.len = 0
  · simp [h0]
  · have := h.cap_pos
    rw [show r.start + r.cap - 1 = r.start + (r.cap - 1) by omega, start_back r h 1 (by omega), cont_slot r h]
    simp [h0]; omega

end Pushr.C17
