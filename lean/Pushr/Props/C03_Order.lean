import Pushr.Props.C03
/-! # C03 (supplement): the ORDER of the lexical rules, for any set of registered instruction names

With the shipped instruction set no token falls under two rules. A host may register more names
(`InstructionSet::add`); then the order decides, and it is: vector literal, parenthesis, registered instruction,
integer, float, TRUE / FALSE, name. `classify` takes the registered-name predicate as a parameter. -/
open Pushr Pushr.Parse
namespace Pushr.C03

def Plain (tok : String) : Prop :=
  startsWith tok.toList "INT[".toList = false ∧ startsWith tok.toList "FLOAT[".toList = false ∧
  startsWith tok.toList "BOOL[".toList = false ∧ tok ≠ "(" ∧ tok ≠ ")"

theorem classify_plain (isI : String → Bool) (tok : String) (hp : Plain tok) :
    classify isI tok =
      if isI tok then .atom (.instr (Instr.ofName tok))
      else match parseI32 tok.toList with
        | some i => .atom (.lit (.int i))
        | none => match parseF32 tok.toList with
          | some f => .atom (.lit (.float f))
          | none =>
            if tok == "TRUE" then .atom (.lit (.bool true))
            else if tok == "FALSE" then .atom (.lit (.bool false))
            else .atom (.ident tok) := by
  obtain ⟨h1, h2, h3, h4, h5⟩ := hp
  simp only [classify, h1, h2, h3, h4, h5, if_false, Bool.false_eq_true, beq_iff_eq]
  rfl

theorem plain_of_no_bracket (tok : String)
    (h : ∀ c ∈ tok.toList, c ≠ '[' ∧ c ≠ '(' ∧ c ≠ ')') : Plain tok := by
  have sw : ∀ pre : String, '[' ∈ pre.toList → startsWith tok.toList pre.toList = false := by
    intro pre hm
    cases hs : startsWith tok.toList pre.toList with
    | false => rfl
    | true =>
      rw [startsWith, beq_iff_eq] at hs
      exact absurd rfl (h '[' (List.mem_of_mem_take (hs ▸ hm))).1
  refine ⟨sw _ (by decide), sw _ (by decide), sw _ (by decide), ?_, ?_⟩ <;> rintro rfl
  · exact absurd rfl (h '(' (by decide)).2.1
  · exact absurd rfl (h ')' (by decide)).2.2

/-- a registered name is an instruction whatever else it looks like (`7`, `2.5`, `inf`, `TRUE` ...) -/
theorem classify_registered (isI : String → Bool) (tok : String) (hp : Plain tok) (h : isI tok = true) :
    classify isI tok = .atom (.instr (Instr.ofName tok)) := by
  rw [classify_plain isI tok hp, if_pos h]

theorem classify_int (isI : String → Bool) (tok : String) (hp : Plain tok) (h : isI tok = false) (i : Int32)
    (hi : parseI32 tok.toList = some i) : classify isI tok = .atom (.lit (.int i)) := by
  simp only [classify_plain isI tok hp, h, hi, Bool.false_eq_true, if_false]

theorem classify_float (isI : String → Bool) (tok : String) (hp : Plain tok) (h : isI tok = false)
    (hi : parseI32 tok.toList = none) (f : Float32) (hf : parseF32 tok.toList = some f) :
    classify isI tok = .atom (.lit (.float f)) := by
  simp only [classify_plain isI tok hp, h, hi, hf, Bool.false_eq_true, if_false]

/-- the vector-literal prefix `INT[` wins over a registration: `INT[1]` is never an instruction -/
theorem classify_vector_first (isI : String → Bool) (tok : String)
    (h : startsWith tok.toList "INT[".toList = true) :
    classify isI tok = .dropped ∨ ∃ v, classify isI tok = .atom (.lit (.ivec v)) := by
  simp only [classify, h, if_true]
  split
  · exact .inl rfl
  · split
    · exact .inr ⟨_, rfl⟩
    · exact .inl rfl

/-- non-vacuity: the token `7` is an instruction when that name is registered, and the integer otherwise -/
example : classify (fun t => t == "7") "7" = .atom (.instr (Instr.ofName "7")) :=
  classify_registered _ "7" (by unfold Plain; decide) (by decide)
example : classify (fun _ => false) "7" = .atom (.lit (.int 7)) :=
  classify_int _ "7" (by unfold Plain; decide) rfl 7 (by decide)

end Pushr.C03
